/-
  Guard ladders.  The model's operations have the shape `if c₁ then .error e₁ else if c₂ then .error e₂ else … x`;
  rewriting with `err_ite_ok` turns "the ladder returned `.ok v`" into the conjunction of the negated guards
  and "`x` returned `.ok v`".
-/
namespace WP

/-- a guard whose branch is not the value sought was not taken -/
theorem ite_eq_iff_of_ne {α} {c : Prop} [Decidable c] {a x v : α} (ha : a ≠ v) :
    (if c then a else x) = v ↔ ¬ c ∧ x = v := by
  by_cases hc : c
  · rw [if_pos hc]; exact ⟨fun h => absurd h ha, fun h => absurd hc h.1⟩
  · rw [if_neg hc]; exact ⟨fun h => ⟨hc, h⟩, fun h => h.2⟩

theorem err_ite_ok {ε α} {c : Prop} [Decidable c] {e : ε} {x : Except ε α} {v : α} :
    (if c then Except.error e else x) = .ok v ↔ ¬ c ∧ x = .ok v :=
  ite_eq_iff_of_ne (fun h => nomatch h)

/-- to be applied as a term: `split at h` instead walks through the whole of `x` -/
theorem ok_of_ite {ε α} {c : Prop} [Decidable c] {e : ε} {x : Except ε α} {v : α}
    (h : (if c then Except.error e else x) = .ok v) : ¬ c ∧ x = .ok v := err_ite_ok.mp h

theorem ite_cases {α : Type} {c : Prop} [Decidable c] {a b v : α} (h : (if c then a else b) = v) :
    (c ∧ a = v) ∨ (¬ c ∧ b = v) := by
  by_cases hc : c
  · rw [if_pos hc] at h; exact Or.inl ⟨hc, h⟩
  · rw [if_neg hc] at h; exact Or.inr ⟨hc, h⟩

end WP
