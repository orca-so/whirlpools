import WP.Model.SwapLoop
/-
  What a successful `swapStep`, `swapFinish` and `swap` consist of (each model function is a chain of
  fallible parts; a success of the whole is a success of every part), and induction over `swapLoop`.
-/
namespace WP
open WP.Gen

theorem checkedAdd64_ok {a b r : Nat} {e : Err} : checkedAdd64 a b e = .ok r ↔ a + b ≤ U64_MAX ∧ r = a + b := by
  unfold checkedAdd64
  by_cases h : a + b ≤ U64_MAX
  · rw [if_pos h]; exact ⟨fun k => ⟨h, (Except.ok.inj k).symm⟩, fun k => by rw [k.2]⟩
  · rw [if_neg h]; exact ⟨fun k => (by cases k), fun k => absurd k.1 h⟩

theorem checkedSub64_ok {a b r : Nat} {e : Err} : checkedSub64 a b e = .ok r ↔ b ≤ a ∧ r = a - b := by
  unfold checkedSub64
  by_cases h : b ≤ a
  · rw [if_pos h]; exact ⟨fun k => ⟨h, (Except.ok.inj k).symm⟩, fun k => by rw [k.2]⟩
  · rw [if_neg h]; exact ⟨fun k => (by cases k), fun k => absurd k.1 h⟩

theorem swapStep_ok {c : SwapCtx} {s s' : SwapSt} {nai : Nat} {nti : Int} {ntp tgt : Nat} :
    swapStep c s nai nti ntp tgt = .ok s' ↔ ∃ sc ra feeSum cr fm',
      computeSwap s.remaining s.fm.updateVolAcc.totalFeeRate s.liq s.price
        (s.fm.updateVolAcc.boundedTarget tgt s.liq).1 c.isInput c.aToB = .ok sc ∧
      stepAmounts c.isInput s.remaining s.calculated sc = .ok ra ∧
      checkedAdd64 s.feeSum sc.feeAmount .AmountCalcOverflow = .ok feeSum ∧
      stepCross c s sc (calculateFees sc.feeAmount c.protoRate s.liq s.protoFee s.fgIn).2 nai nti ntp = .ok cr ∧
      (if !(s.fm.updateVolAcc.boundedTarget tgt s.liq).2 then (.ok s.fm.updateVolAcc.advance : R FeeMgr)
        else s.fm.updateVolAcc.advanceAfterSkip sc.nextPrice ntp nti) = .ok fm' ∧
      s' = { remaining := ra.1, calculated := ra.2, price := sc.nextPrice, tick := cr.tick, liq := cr.liq,
             protoFee := (calculateFees sc.feeAmount c.protoRate s.liq s.protoFee s.fgIn).1, arrayIdx := cr.arrayIdx,
             fgIn := (calculateFees sc.feeAmount c.protoRate s.liq s.protoFee s.fgIn).2, feeSum := feeSum, fm := fm',
             ticks := cr.ticks,
             steps := (s.liq, s.fm.updateVolAcc.totalFeeRate, sc.amountIn, sc.amountOut, sc.feeAmount, sc.nextPrice) :: s.steps } := by
  unfold swapStep
  constructor
  · intro h
    dsimp only at h
    split at h
    · cases h
    · rename_i sc h1
      split at h
      · cases h
      · rename_i ra h2
        split at h
        · cases h
        · rename_i feeSum h3
          split at h
          · cases h
          · rename_i cr h4
            split at h
            · cases h
            · rename_i fm' h5
              exact ⟨sc, ra, feeSum, cr, fm', h1, h2, h3, h4, h5, (Except.ok.inj h).symm⟩
  · rintro ⟨sc, ra, feeSum, cr, fm', h1, h2, h3, h4, h5, rfl⟩
    simp only [h1, h2, h3, h4, h5]

theorem swapFinish_ok {p : PoolD} {amount limit : Nat} {isInput aToB : Bool} {now : Nat} {rewards : List RewardInfo}
    {s : SwapSt} {u : PostSwap} :
    swapFinish p amount limit isInput aToB now rewards s = .ok u ↔
      ¬ (decide (s.remaining > 0) && !isInput && decide (limit = NO_EXPLICIT_SQRT_PRICE_LIMIT)) = true ∧
      ∃ fm', s.fm.updateMajorSwapTs now p.price s.price = .ok fm' ∧
        u = { amountA := if aToB = isInput then amount - s.remaining else s.calculated,
              amountB := if aToB = isInput then s.calculated else amount - s.remaining,
              lpFee := s.feeSum - s.protoFee, liq := s.liq, tick := s.tick, price := s.price,
              fgIn := s.fgIn, rewards := rewards, protoFee := s.protoFee, afInfo := fm'.nextInfo, ticks := s.ticks,
              steps := s.steps.reverse } := by
  unfold swapFinish
  constructor
  · intro h
    split at h
    · cases h
    · rename_i h1
      split at h
      · cases h
      · rename_i fm' h2
        exact ⟨h1, fm', h2, (Except.ok.inj h).symm⟩
  · rintro ⟨h1, fm', h2, rfl⟩
    rw [if_neg h1, h2]

theorem swap_ok {p : PoolD} {ticks : TickMap} {arrays : List Int} {amount limit : Nat} {isInput aToB : Bool} {now : Nat}
    {af : Option AfInfo} {fuel : Nat} {u : PostSwap} :
    swap p ticks arrays amount limit isInput aToB now af fuel = .ok u ↔ ∃ rewards fm s,
      swapGuard p amount limit aToB = .ok () ∧ nextRewardInfos p now = .ok rewards ∧
      FeeMgr.new aToB p.tick now p.feeRate af = .ok fm ∧
      swapLoop (swapCtxOf p arrays limit isInput aToB rewards) fuel (swapInit p ticks amount aToB fm) none = .ok s ∧
      swapFinish p amount limit isInput aToB now rewards s = .ok u := by
  unfold swap
  constructor
  · intro h
    split at h
    · cases h
    · rename_i h1
      split at h
      · cases h
      · rename_i rewards h2
        split at h
        · cases h
        · rename_i fm h3
          split at h
          · cases h
          · rename_i s h4
            exact ⟨rewards, fm, s, h1, h2, h3, h4, h⟩
  · rintro ⟨rewards, fm, s, h1, h2, h3, h4, h5⟩
    simp only [h1, h2, h3, h4, h5]

/-- induction over the two nested loops of `swap`: `P s inner` is the invariant at the loop head with
    the control in the outer (`none`) or the inner loop; on exit the outer loop's condition has failed -/
theorem swapLoop_ind (c : SwapCtx) (P : SwapSt → Option (Nat × Int × Nat × Nat) → Prop)
    (hsearch : ∀ s r, P s none → s.remaining > 0 → c.limit ≠ s.price →
      seqNextInit s.ticks c.arrays c.ts c.aToB (c.arrays.length + 1) s.tick s.arrayIdx = .ok r →
      P s (some (r.1, r.2, sp r.2, if c.aToB then max c.limit (sp r.2) else min c.limit (sp r.2))))
    (hstep : ∀ s s' nai nti ntp tgt, P s (some (nai, nti, ntp, tgt)) → swapStep c s nai nti ntp tgt = .ok s' →
      P s' none ∧ (s'.price ≠ tgt → P s' (some (nai, nti, ntp, tgt)))) :
    ∀ (fuel : Nat) (s s' : SwapSt) (inner : Option (Nat × Int × Nat × Nat)),
      P s inner → swapLoop c fuel s inner = .ok s' → P s' none ∧ (s'.remaining = 0 ∨ s'.price = c.limit) := by
  intro fuel
  induction fuel with
  | zero => intro s s' inner _ h; cases h
  | succ n ih =>
    intro s s' inner p h
    cases inner with
    | none =>
      unfold swapLoop at h
      by_cases hc : (decide (s.remaining > 0) && decide (c.limit ≠ s.price)) = true
      · rw [if_pos hc] at h
        simp only [Bool.and_eq_true, decide_eq_true_eq] at hc
        cases hs : seqNextInit s.ticks c.arrays c.ts c.aToB (c.arrays.length + 1) s.tick s.arrayIdx with
        | error e => rw [hs] at h; cases h
        | ok r => rw [hs] at h; dsimp only at h; exact ih s s' _ (hsearch s r p hc.1 hc.2 hs) h
      · rw [if_neg hc] at h; cases h
        refine ⟨p, ?_⟩
        simp only [Bool.and_eq_true, decide_eq_true_eq, not_and, Decidable.not_not] at hc
        by_cases z : s.remaining = 0
        · exact Or.inl z
        · exact Or.inr (hc (Nat.pos_of_ne_zero z)).symm
    | some w =>
      obtain ⟨nai, nti, ntp, tgt⟩ := w
      unfold swapLoop at h
      cases hst : swapStep c s nai nti ntp tgt with
      | error e => rw [hst] at h; cases h
      | ok s1 =>
        rw [hst] at h
        dsimp only at h
        obtain ⟨p1, p2⟩ := hstep s s1 nai nti ntp tgt p hst
        by_cases hc : (decide (s1.remaining = 0) || decide (s1.price = tgt)) = true
        · rw [if_pos hc] at h; exact ih s1 s' none p1 h
        · rw [if_neg hc] at h
          simp only [Bool.or_eq_true, decide_eq_true_eq, not_or] at hc
          exact ih s1 s' _ (p2 hc.2) h

theorem swapLoop_induct (c : SwapCtx) (P : SwapSt → Prop)
    (hstep : ∀ s s' nai nti ntp tgt, P s → swapStep c s nai nti ntp tgt = .ok s' → P s') :
    ∀ (fuel : Nat) (s s' : SwapSt) (inner : Option (Nat × Int × Nat × Nat)),
      P s → swapLoop c fuel s inner = .ok s' → P s' :=
  fun fuel s s' inner p h =>
    (swapLoop_ind c (fun s _ => P s) (fun _ _ p _ _ _ => p)
      (fun s s' nai nti ntp tgt p h => ⟨hstep s s' nai nti ntp tgt p h, fun _ => hstep s s' nai nti ntp tgt p h⟩)
      fuel s s' inner p h).1

/-- `update_after_swap` as one record: the direction only selects which fee growth and protocol fee move -/
theorem updateAfterSwap_eq (p : PoolD) (u : PostSwap) (aToB : Bool) (now : Nat) :
    updateAfterSwap p u aToB now =
      { p with tick := u.tick, price := u.price, liq := u.liq, rewards := u.rewards, rewardTs := now,
               fgA := if aToB then u.fgIn else p.fgA, fgB := if aToB then p.fgB else u.fgIn,
               pfA := if aToB then (p.pfA + u.protoFee) % TWO64 else p.pfA,
               pfB := if aToB then p.pfB else (p.pfB + u.protoFee) % TWO64 } := by
  cases aToB <;> rfl

end WP
