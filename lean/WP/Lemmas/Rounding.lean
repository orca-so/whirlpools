import Mathlib.Tactic.Linarith
import Mathlib.Tactic.Ring
import Mathlib.Algebra.Order.Ring.Nat
/-  Rounding lemmas for natural-number division (ceil / floor characterisations). -/
namespace WP

/-- exact ceiling division -/
def cdiv (n d : Nat) : Nat := (n + d - 1) / d

theorem cdiv_le_iff {n d k : Nat} (hd : 0 < d) : cdiv n d ≤ k ↔ n ≤ k * d := by
  unfold cdiv
  rw [← Nat.lt_succ_iff, Nat.div_lt_iff_lt_mul hd]
  constructor
  · intro h; have : n + d - 1 < k * d + d := by rw [Nat.succ_mul] at h; exact h
    omega
  · intro h; rw [Nat.succ_mul]; omega

theorem lt_cdiv_iff {n d k : Nat} (hd : 0 < d) : k < cdiv n d ↔ k * d < n := by
  rw [← not_le, cdiv_le_iff hd, not_le]

theorem le_cdiv_mul {n d : Nat} (hd : 0 < d) : n ≤ cdiv n d * d := (cdiv_le_iff hd).mp (le_refl _)

theorem floor_le_cdiv (n d : Nat) (hd : 0 < d) : n / d ≤ cdiv n d := by
  unfold cdiv
  exact Nat.div_le_div_right (by omega)

theorem cdiv_le_floor_succ (n d : Nat) (hd : 0 < d) : cdiv n d ≤ n / d + 1 := by
  rw [cdiv_le_iff hd]
  have := Nat.lt_succ_iff.mpr (le_refl (n / d))
  have h2 : n < (n / d + 1) * d := by
    have := Nat.lt_mul_div_succ n hd
    rw [Nat.mul_comm] at this; exact this
  omega

/-- the `if n % d > 0 then n / d + 1 else n / d` idiom of the program is the exact ceiling -/
theorem roundUp_eq_cdiv (n d : Nat) (hd : 0 < d) :
    (if n % d > 0 then n / d + 1 else n / d) = cdiv n d := by
  have hdm := Nat.div_add_mod n d
  split
  · rename_i h
    apply le_antisymm
    · rw [Nat.succ_le_iff, lt_cdiv_iff hd]
      have : d * (n / d) < n := by omega
      rw [Nat.mul_comm]; exact this
    · exact cdiv_le_floor_succ n d hd
  · rename_i h
    have h0 : n % d = 0 := by omega
    apply le_antisymm
    · exact floor_le_cdiv n d hd
    · rw [cdiv_le_iff hd]
      have : d * (n / d) = n := by omega
      rw [Nat.mul_comm]; omega

theorem roundUp_ne_eq_cdiv (n d : Nat) (hd : 0 < d) : (if n % d ≠ 0 then n / d + 1 else n / d) = cdiv n d := by
  simp only [← Nat.pos_iff_ne_zero]
  exact roundUp_eq_cdiv n d hd

theorem cdiv_mono_left {a b d : Nat} (h : a ≤ b) : cdiv a d ≤ cdiv b d := by
  unfold cdiv; exact Nat.div_le_div_right (by omega)

theorem cdiv_zero (d : Nat) (hd : 0 < d) : cdiv 0 d = 0 := by
  unfold cdiv; simp; omega

theorem cdiv_mul_right (k d : Nat) (hd : 0 < d) : cdiv (k * d) d = k :=
  le_antisymm ((cdiv_le_iff hd).mpr (le_refl _)) (Nat.le_of_mul_le_mul_right (le_cdiv_mul hd) hd)

/-- rounding up on request, as the program writes it (`> 0`) and as the SDK does (`≠ 0`) -/
theorem roundUpIf_eq (n d : Nat) (up : Bool) (hd : 0 < d) :
    (if up && decide (n % d > 0) then n / d + 1 else n / d) = if up then cdiv n d else n / d := by
  cases up with
  | false => rfl
  | true => simpa using roundUp_eq_cdiv n d hd

theorem roundUpIf_ne_eq (n d : Nat) (up : Bool) (hd : 0 < d) :
    (if up && decide (n % d ≠ 0) then n / d + 1 else n / d) = if up then cdiv n d else n / d := by
  simp only [← Nat.pos_iff_ne_zero]
  exact roundUpIf_eq n d up hd

/-- with a remainder the quotient is below the numerator, so adding one to it cannot wrap at `W` -/
theorem roundUpIf_wrap_eq (n d W : Nat) (up : Bool) (hn : n < W) (hd : 0 < d) :
    (if up && decide (n % d > 0) then (n / d + 1) % W else n / d) = if up then cdiv n d else n / d := by
  rw [← roundUpIf_eq n d up hd]
  split
  · rename_i h
    simp only [Bool.and_eq_true, decide_eq_true_eq] at h
    have h1 := Nat.div_add_mod n d
    have h2 : n / d ≤ d * (n / d) := Nat.le_mul_of_pos_left _ hd
    rw [Nat.mod_eq_of_lt (by omega)]
  · rfl

theorem wrapping_sub_eq (x a W : Nat) (ha : a ≤ x) (hx : x < W) : (x + W - a) % W = x - a := by
  rw [show x + W - a = (x - a) + W by omega, Nat.add_mod_right, Nat.mod_eq_of_lt (by omega)]

end WP
