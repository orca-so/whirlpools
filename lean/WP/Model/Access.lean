/-
  Data types for the translated account-constraint specifications (filled in by
  tools/extract_specs.py) and the semantics given to them.
  An `Env` says, for an instruction invocation, which key / signer flag every named account slot
  carries and how key-valued source expressions evaluate; `accepts` is the conjunction of what
  Anchor's generated `try_accounts` (resp. the Pinocchio prologue) checks, as far as signer and
  address/has_one/constraint attributes are concerned.
-/
namespace WP

structure AccField where
  name : String
  kind : String            -- Signer | Account | InterfaceAccount | Program | Interface | UncheckedAccount | AccountLoader | Sysvar
  ty : String
  optional : Bool := false
  attrs : List (String × String × String)   -- (keyword, expression text, custom error)
  deriving DecidableEq, Repr

structure AccSpec where
  name : String
  file : String
  fields : List AccField
  deriving DecidableEq, Repr

structure PinoSpec where
  file : String
  labels : List (String × String)            -- (variable, AccountIterator method)
  checks : List (String × String × String)   -- (verify_address | verify_constraint | load_* | other, arg1, arg2)
  core : List String                         -- guard calls / rejects of the handler core
  deriving DecidableEq, Repr

/-- an invocation environment -/
structure Env where
  key : String → Nat              -- key of the account in a named slot
  isSigner : String → Bool
  evalKey : String → Nat          -- value of a key-valued source expression (e.g. "whirlpools_config.fee_authority")
  evalBool : String → Bool        -- value of a boolean source expression (constraint = …)

/-- what one attribute demands of the environment -/
def holdsAttr (env : Env) (field : String) (a : String × String × String) : Prop :=
  match a.1 with
  | "address" => env.key field = env.evalKey a.2.1
  | "has_one" => env.evalKey (field ++ "." ++ a.2.1) = env.key a.2.1
  | "constraint" => env.evalBool a.2.1 = true
  | _ => True

def holdsField (env : Env) (f : AccField) : Prop :=
  (f.kind = "Signer" → env.isSigner f.name = true) ∧ ∀ a ∈ f.attrs, holdsAttr env f.name a

/-- acceptance by the account-validation layer of an Anchor instruction -/
def accepts (spec : AccSpec) (env : Env) : Prop := ∀ f ∈ spec.fields, holdsField env f

theorem accepts_field (spec : AccSpec) (env : Env) (h : accepts spec env) (f : AccField) (hf : f ∈ spec.fields) :
    holdsField env f := h f hf

/-- look up a spec / field by name -/
def findSpec (l : List AccSpec) (n : String) : Option AccSpec := l.find? (·.name == n)
def findField (s : AccSpec) (n : String) : Option AccField := s.fields.find? (·.name == n)

/-- decidable presence tests used by the requirement tables -/
def hasAttr (l : List AccSpec) (spec field key expr : String) : Bool :=
  match findSpec l spec with
  | none => false
  | some s =>
    match findField s field with
    | none => false
    | some f => f.attrs.any fun a => a.1 == key && a.2.1 == expr

def hasKind (l : List AccSpec) (spec field kind : String) : Bool :=
  match findSpec l spec with
  | none => false
  | some s =>
    match findField s field with
    | none => false
    | some f => f.kind == kind

theorem find_mem {α} (l : List α) (p : α → Bool) (x : α) (h : l.find? p = some x) : x ∈ l := List.mem_of_find?_eq_some h

theorem hasAttr_sound (l : List AccSpec) (spec field key expr : String) (h : hasAttr l spec field key expr = true) :
    ∃ s f, findSpec l spec = some s ∧ findField s field = some f ∧ ∃ e, (key, expr, e) ∈ f.attrs := by
  unfold hasAttr at h
  split at h
  · cases h
  · rename_i s hs
    split at h
    · cases h
    · rename_i f hf
      simp only [List.any_eq_true, Bool.and_eq_true, beq_iff_eq] at h
      obtain ⟨⟨k, x, e⟩, ha, rfl, rfl⟩ := h
      exact ⟨s, f, hs, hf, e, ha⟩

theorem hasKind_sound (l : List AccSpec) (spec field kind : String) (h : hasKind l spec field kind = true) :
    ∃ s f, findSpec l spec = some s ∧ findField s field = some f ∧ f.kind = kind := by
  unfold hasKind at h
  split at h
  · cases h
  · rename_i s hs
    split at h
    · cases h
    · rename_i f hf
      exact ⟨s, f, hs, hf, by simpa using h⟩

theorem findField_mem (s : AccSpec) (n : String) (f : AccField) (h : findField s n = some f) : f ∈ s.fields ∧ f.name = n :=
  ⟨List.mem_of_find?_eq_some h, by simpa using List.find?_some h⟩

theorem hasAttr_enforced (l : List AccSpec) (spec field key expr : String) (h : hasAttr l spec field key expr = true)
    (env : Env) : ∃ s e, findSpec l spec = some s ∧ (accepts s env → holdsAttr env field (key, expr, e)) := by
  obtain ⟨s, f, hs, hf, e, hmem⟩ := hasAttr_sound l spec field key expr h
  obtain ⟨hfm, rfl⟩ := findField_mem s field f hf
  exact ⟨s, e, hs, fun hacc => (hacc f hfm).2 _ hmem⟩

theorem signer_enforced (l : List AccSpec) (spec field : String) (h : hasKind l spec field "Signer" = true)
    (env : Env) : ∃ s, findSpec l spec = some s ∧ (accepts s env → env.isSigner field = true) := by
  obtain ⟨s, f, hs, hf, hk⟩ := hasKind_sound l spec field "Signer" h
  obtain ⟨hfm, rfl⟩ := findField_mem s field f hf
  exact ⟨s, hs, fun hacc => (hacc f hfm).1 hk⟩

theorem holdsAttr_address (env : Env) (field ex e : String) :
    holdsAttr env field ("address", ex, e) ↔ env.key field = env.evalKey ex := by
  simp only [holdsAttr]

/-! ### executable acceptance on an explicit environment (family `xadm`: the translated tables and the
     semantics above against Anchor's generated `try_accounts`, run through the real entrypoint) -/

def holdsAttrB (key : String → Nat) (evalKey : String → Nat) (evalBool : String → Bool) (field : String) (a : String × String × String) : Bool :=
  if a.1 = "address" then key field == evalKey a.2.1
  else if a.1 = "has_one" then evalKey (field ++ "." ++ a.2.1) == key a.2.1
  else if a.1 = "constraint" then evalBool a.2.1
  else true

def acceptsB (spec : AccSpec) (env : Env) : Bool :=
  spec.fields.all fun f => (f.kind != "Signer" || env.isSigner f.name) && f.attrs.all (holdsAttrB env.key env.evalKey env.evalBool f.name)

theorem holdsAttrB_iff (env : Env) (field : String) (a : String × String × String) :
    holdsAttrB env.key env.evalKey env.evalBool field a = true ↔ holdsAttr env field a := by
  unfold holdsAttrB holdsAttr
  by_cases h1 : a.1 = "address"
  · simp [h1]
  · by_cases h2 : a.1 = "has_one"
    · simp [h2]
    · by_cases h3 : a.1 = "constraint"
      · simp [h3]
      · simp only [h1, h2, h3, if_false]

theorem acceptsB_iff (spec : AccSpec) (env : Env) : acceptsB spec env = true ↔ accepts spec env := by
  simp only [acceptsB, accepts, holdsField, List.all_eq_true, Bool.and_eq_true, Bool.or_eq_true, bne_iff_ne, ne_eq,
    holdsAttrB_iff, Decidable.imp_iff_not_or]

def assocNat (l : List (String × Nat)) (k : String) : Nat :=
  match l with
  | [] => 0
  | (a, v) :: r => if a = k then v else assocNat r k

/-- the environment described by an `xadm` line: per field (key, signer flag), per checked attribute
    (address / has_one / constraint, in source order) the value the harness read from the real accounts -/
def envOfLine (spec : AccSpec) (keys : List (Nat × Bool)) (vals : List Nat) : Option Env :=
  let names := spec.fields.map (·.name)
  let attrKeys : List (String × String) := spec.fields.flatMap fun f =>
    (f.attrs.filter fun a => a.1 = "address" || a.1 = "has_one" || a.1 = "constraint").map fun a =>
      (a.1, if a.1 = "has_one" then f.name ++ "." ++ a.2.1 else a.2.1)
  if names.length ≠ keys.length || attrKeys.length ≠ vals.length then none
  else
    let keyTab := names.zip (keys.map (·.1))
    let sigTab := names.zip (keys.map fun k => if k.2 then 1 else 0)
    let valTab := (attrKeys.map (·.2)).zip vals
    some { key := assocNat keyTab, isSigner := fun n => assocNat sigTab n == 1, evalKey := assocNat valTab,
           evalBool := fun e => assocNat valTab e == 1 }

/-- model of verify_position_authority / _interface / pino_verify_position_authority:
    the delegate branch is taken only when the authority key equals the delegate -/
def verifyPositionAuthority (owner : Nat) (delegate : Option Nat) (delegatedAmount : Nat) (authKey : Nat) (authSigner : Bool) : Bool :=
  match delegate with
  | some d =>
    if authKey = d then (decide (d = authKey) && authSigner) && decide (delegatedAmount = 1)
    else decide (owner = authKey) && authSigner
  | none => decide (owner = authKey) && authSigner


/-- model of load_tick_array / load_tick_array_mut (Anchor and Pinocchio): the order of the checks -/
def loadTickArray (ownerOk writable : Bool) (disc : Nat) (whirlpoolOk isMut : Bool) : Option String :=
  if isMut && !writable then some "AccountNotMutable"
  else if !ownerOk then some "AccountOwnedByWrongProgram"
  else if disc = 3 then some "AccountDiscriminatorNotFound"
  else if disc ≥ 2 then some "AccountDiscriminatorMismatch"
  else if !whirlpoolOk then some "DifferentWhirlpoolTickArrayAccount"
  else none

end WP
