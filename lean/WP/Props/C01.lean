import WP.Props.Solvency.Ext
/-
  Property C01 — pool solvency: every outstanding claim on a vault can always be paid.

  Proved for the history state machine `histStep` / `histApply` (WP.Model.Hist: a pool over an
  abstract tick map with any number of positions; operations open position, increase / decrease
  liquidity, update fees, collect fees, collect protocol fees, swap (static or adaptive fee, any amount,
  direction, mode, limit, over any aligned consecutive array sequence), reward configuration and
  collection, clock moves; a failing operation changes nothing).  The helper development is in
  WP/Props/Solvency/*.lean; this file states the property theorems.

    (I)   `solvent`         after ANY finite history each vault holds at least the protocol fees owed plus,
                            for every position, its owed fees, the fee it would be credited if touched
                            now and the tokens returned by withdrawing all its liquidity now
    (II)  `funds_suffice`   hence none of the four transfers out of a vault can lack funds in a reachable
                            state — draining in any order succeeds
    (III) `no_free_lunch`   a swap-only history never leaves the vaults with less of one token and no more
                            of the other: whoever only swaps never gains one token without losing the other

  The invariant behind (I)–(III) is over EXACT rational claims (`Solv.claims`): Σ L·2^64·(1/p̄ − 1/p_u),
  Σ L·(p̄ − p_l)/2^64, Σ L·pend/2^64 — the program takes ceilings of these and pays floors.

  `deposit_covers_withdrawal`, `step_pool_never_loses` and `fees_backed` are the three rounding /
  accounting mechanisms, stated independently of the state machine.
  Hypotheses that remain visible: swaps run over aligned consecutive array sequences (`OpOK`; what the
  account loader builds: `Reach.buildSeq_seqOK`) with a u64 amount; the pool starts empty with in-bounds
  price / fee rate / protocol fee rate (`solv_init`; C19 is about those bounds).
-/
namespace WP.C01
open WP WP.Gen WP.Reach WP.Path WP.Solv

theorem deposit_covers_withdrawal (curTick : Int) (price : Nat) (lower upper : Int) (L : Nat) (ai bi ad bd : Nat)
    (hl : 0 < sp lower) (hu : 0 < sp upper) (hp : 0 < price) (hL : 0 < L)
    (hinc : calculateLiquidityTokenDeltas curTick price lower upper (L : Int) = .ok (ai, bi))
    (hdec : calculateLiquidityTokenDeltas curTick price lower upper (-(L : Int)) = .ok (ad, bd)) :
    ad ≤ ai ∧ bd ≤ bi := by
  have := C08.add_remove_loss curTick price lower upper L ai bi ad bd hl hu hp hL hinc hdec
  omega

/-- one swap step: the input taken is the ceiling of the exact amount, the output paid at most its floor -/
theorem step_pool_never_loses (rem rate L cur tgt : Nat) (ein dir : Bool) (r : SwapStep)
    (wf : C02.WFStep rem rate L cur tgt dir) (h : computeSwap rem rate L cur tgt ein dir = .ok r) :
    r.amountIn = C02.roundTok dir L (C02.lo' cur r.nextPrice) (C02.hi' cur r.nextPrice) true ∧
    r.amountOut ≤ C02.roundTok (!dir) L (C02.lo' cur r.nextPrice) (C02.hi' cur r.nextPrice) false := by
  refine ⟨C02.step_in_exact rem rate L cur tgt ein dir r wf h, ?_⟩
  rw [C02.step_out_exact rem rate L cur tgt ein dir r wf h]
  split
  · exact le_refl _
  · exact Nat.min_le_right _ _

theorem fees_backed (p : PoolD) (ticks : TickMap) (arrays : List Int) (amount limit : Nat) (isInput aToB : Bool)
    (now : Nat) (af : Option AfInfo) (fuel : Nat) (u : PostSwap)
    (hp : p.protoRate ≤ PROTOCOL_FEE_RATE_MUL_VALUE)
    (h : swap p ticks arrays amount limit isInput aToB now af fuel = .ok u) :
    (if aToB then u.amountA else u.amountB) = C06.sumIn u.steps + (u.lpFee + u.protoFee) := by
  have := C06.swap_accounting p ticks arrays amount limit isInput aToB now af fuel u hp h
  omega

variable {ts0 : Nat}

def after (p : PoolD) (now : Nat) (af : Option AfInfo) (ops : List HistOp) : HistState :=
  ops.foldl histApply { pool := p, now := now, af := af }

/-- a fresh pool: no liquidity, nothing owed, price / tick consistent and in bounds, rates in bounds -/
structure Fresh (p : PoolD) (af : Option AfInfo) : Prop where
  liq : p.liq = 0
  ts : 0 < p.ts
  fee : p.feeRate ≤ FEE_RATE_HARD_LIMIT
  proto : p.protoRate ≤ PROTOCOL_FEE_RATE_MUL_VALUE
  price_lo : MIN_SQRT_PRICE_X64 ≤ p.price
  price_hi : p.price ≤ MAX_SQRT_PRICE_X64
  tick : p.tick = ti p.price
  pfA : p.pfA = 0
  pfB : p.pfB = 0
  fgA : p.fgA < TWO128
  fgB : p.fgB < TWO128
  af : ∀ info, af = some info → InfoOK info

theorem fresh_inv (p : PoolD) (now : Nat) (af : Option AfInfo) (f : Fresh p af) :
    SolvInv p.ts { pool := p, now := now, af := af } :=
  solv_init p now af f.liq f.ts f.fee f.price_lo f.price_hi f.tick f.af f.proto f.pfA f.pfB f.fgA f.fgB

theorem reachable (p : PoolD) (now : Nat) (af : Option AfInfo) (ops : List HistOp) (f : Fresh p af)
    (hops : ∀ op ∈ ops, OpOK p.ts op) : SolvInv p.ts (after p now af ops) :=
  reach_solvent ops _ (fresh_inv p now af f) hops

/-- **C01 (I)**: after any history, for token A (`true`) and token B (`false`):
    protocol fees owed + Σ over positions of (fees owed + fee credited if touched now + tokens returned by
    withdrawing all liquidity at the current price)  ≤  vault balance -/
theorem solvent (p : PoolD) (now : Nat) (af : Option AfInfo) (ops : List HistOp) (f : Fresh p af)
    (hops : ∀ op ∈ ops, OpOK p.ts op) (tokA : Bool) :
    pfOf tokA (after p now af ops) +
      sumN (fun q => owedN tokA q + creditNow tokA (after p now af ops) q + withdrawAll tokA (after p now af ops) q)
        (after p now af ops).positions ≤ vaultOf tokA (after p now af ops) :=
  payable tokA _ (reachable p now af ops f hops)

/-- the weaker statement with floor-valued claims and fees only (`solvent_floor`) -/
def Solvent (s : HistState) : Prop :=
  ∀ (claimsA claimsB : Nat),
    claimsA = s.pool.pfA + (s.positions.map fun (_, q) => q.owedA).sum →
    claimsB = s.pool.pfB + (s.positions.map fun (_, q) => q.owedB).sum →
    claimsA ≤ s.vaultA ∧ claimsB ≤ s.vaultB

theorem map_sum_le (f g : PositionD → Nat) (h : ∀ q, f q ≤ g q) : ∀ l : List (Nat × PositionD),
    (l.map fun x => f x.2).sum ≤ sumN g l := by
  intro l
  induction l with
  | nil => exact Nat.le_refl _
  | cons hd tl ih => exact Nat.add_le_add (h hd.2) ih

theorem solvent_floor (p : PoolD) (now : Nat) (af : Option AfInfo) (ops : List HistOp) (f : Fresh p af)
    (hops : ∀ op ∈ ops, OpOK p.ts op) : Solvent (after p now af ops) := by
  intro cA cB hA hB
  have key : ∀ tokA, pfOf tokA (after p now af ops) + ((after p now af ops).positions.map fun x => owedN tokA x.2).sum ≤
      vaultOf tokA (after p now af ops) := fun tokA =>
    le_trans (Nat.add_le_add_left (map_sum_le _ _ (fun q => Nat.le_add_right_of_le (Nat.le_add_right _ _)) _) _)
      (solvent p now af ops f hops tokA)
  rw [hA, hB]
  exact ⟨key true, key false⟩

/-- **C01 (II)**: in every reachable state, collecting protocol fees, collecting any position's fees,
    removing any accepted amount of any position's liquidity and paying the output of any swap never
    exceed the vault balance -/
theorem funds_suffice (p : PoolD) (now : Nat) (af : Option AfInfo) (ops : List HistOp) (f : Fresh p af)
    (hops : ∀ op ∈ ops, OpOK p.ts op) :
    let s := after p now af ops
    (s.pool.pfA ≤ s.vaultA ∧ s.pool.pfB ≤ s.vaultB) ∧
    (∀ id pos, posGet s.positions id = some pos → pos.owedA ≤ s.vaultA ∧ pos.owedB ≤ s.vaultB) ∧
    (∀ id pos (amount : Nat) u da db, posGet s.positions id = some pos →
        calculateModifyLiquidity s.pool pos (s.ticks.get pos.lower) (s.ticks.get pos.upper) (-(amount : Int)) s.now = .ok u →
        calculateLiquidityTokenDeltas s.pool.tick s.pool.price pos.lower pos.upper (-(amount : Int)) = .ok (da, db) →
        da ≤ s.vaultA ∧ db ≤ s.vaultB) ∧
    (∀ amount limit isInput aToB arrays u, SeqOK arrays s.pool.ts aToB → amount ≤ U64_MAX →
        swap s.pool s.ticks arrays amount limit isInput aToB s.now s.af SWAP_FUEL = .ok u →
        (if aToB then u.amountB ≤ s.vaultB else u.amountA ≤ s.vaultA)) :=
  Solv.funds_suffice _ (reachable p now af ops f hops)

/-- **C01 (III)**: from any reachable state, any sequence of swaps leaves the vaults NOT with (less of
    one token and no more of the other) -/
theorem no_free_lunch (p : PoolD) (now : Nat) (af : Option AfInfo) (ops swaps : List HistOp) (f : Fresh p af)
    (hops : ∀ op ∈ ops, OpOK p.ts op) (hsw : ∀ op ∈ swaps, OpOK p.ts op ∧ IsSwap op) :
    let s := after p now af ops
    let s' := swaps.foldl histApply s
    ¬ (s'.vaultA ≤ s.vaultA ∧ s'.vaultB ≤ s.vaultB ∧ (s'.vaultA < s.vaultA ∨ s'.vaultB < s.vaultB)) :=
  Solv.no_free_lunch swaps _ (reachable p now af ops f hops) hsw

/-- **C01 (I) for histories that also re-range empty positions and reposition liquidity**
    (`reset_position_range`, `reposition_liquidity_v2` = withdraw all ; re-range ; deposit): the invariant —
    and with it `payable`, `funds_suffice` — holds at every state such a history reaches -/
theorem solvent_ext (p : PoolD) (now : Nat) (af : Option AfInfo) (ops : List ExtOp) (f : Fresh p af)
    (hops : ∀ op ∈ ops, ExtOK p.ts op) (tokA : Bool) :
    let s := ops.foldl extApply { pool := p, now := now, af := af }
    pfOf tokA s + sumN (fun q => owedN tokA q + creditNow tokA s q + withdrawAll tokA s q) s.positions ≤ vaultOf tokA s :=
  payable tokA _ (reach_solvent_ext ops _ (fresh_inv p now af f) hops)

/-! ### non-vacuity: a concrete history meets every hypothesis, holds claims, and the theorems bite -/

example : Fresh Reach.exPool none :=
  { liq := rfl, ts := by decide, fee := by decide, proto := by decide, price_lo := by decide, price_hi := by decide,
    tick := by decide +kernel, pfA := rfl, pfB := rfl, fgA := by decide, fgB := by decide, af := fun _ h => by cases h }

-- the example history of Reach.lean (two positions, a crossing swap down, a swap back up) leaves non-zero
-- protocol fees, a positive vault on both sides, and the trader of the two swaps has lost token A
example : let s0 := after Reach.exPool 10 none (Reach.exOps.take 4)
          let s := after Reach.exPool 10 none Reach.exOps
          (0 < s.pool.pfA ∧ 0 < s.vaultA ∧ 0 < s.vaultB ∧ s0.vaultA < s.vaultA ∧ s.positions.length = 2) = True := by
  decide +kernel

-- a reposition really executes on the example history: position 2 (range [−6400, −64), in range after the
-- first swap) is moved to [−12800, −6400) with new liquidity, and the result still holds liquidity
example : let s := after Reach.exPool 10 none (Reach.exOps.take 5)
          (match histRepo s 2 (-12800) (-6400) 50000 with
           | .ok s' => decide (s'.pool.liq < s.pool.liq) && (posGet s'.positions 2).map (fun q => (q.lower, q.upper, q.liq)) == some (-12800, -6400, 50000)
           | .error _ => false) = true := by
  decide +kernel

end WP.C01
