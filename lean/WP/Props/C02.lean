import WP.Props.C02.Direction
/-
  Property C02 — a swap step is priced on the exact curve, rounded only in the pool's favour.

  Property theorems only; helper lemmas are in WP/Props/C02/*.  Model: `computeSwap`
  (WP/Model/SwapMath.lean) = `compute_swap` of programs/whirlpool/src/math/swap_math.rs with
  `try_get_amount_delta_a/b`, `get_next_sqrt_price_from_a_round_up/_b_round_down` of token_math.rs.
  Exact amounts between prices lo ≤ hi for liquidity L (Q = 2^64):
      token A:  L·(hi−lo)·Q / (hi·lo)          token B:  L·(hi−lo) / Q
  `roundTok isA L lo hi up` is that exact amount rounded up (`cdiv`, the exact ceiling) or down.
-/
namespace WP.C02
open WP WP.Gen

/-- hypotheses of the property: both prices within the protocol bounds, target on the trade side
    of the current price, arguments within their machine types, fee rate ≤ the 10% hard limit -/
structure WFStep (rem rate L cur tgt : Nat) (dir : Bool) : Prop where
  cur_lo : MIN_SQRT_PRICE_X64 ≤ cur
  cur_hi : cur ≤ MAX_SQRT_PRICE_X64
  tgt_lo : MIN_SQRT_PRICE_X64 ≤ tgt
  tgt_hi : tgt ≤ MAX_SQRT_PRICE_X64
  dirOk : if dir then tgt ≤ cur else cur ≤ tgt
  remU : rem ≤ U64_MAX
  LU : L ≤ U128_MAX
  rateOk : rate ≤ FEE_RATE_HARD_LIMIT

/-- the exact-in budget net of fee -/
def netBudget (rem rate : Nat) : Nat := rem * (FEE_RATE_MUL_VALUE - rate) / FEE_RATE_MUL_VALUE

theorem amountCalc_spec (rem rate amt : Nat) (ein : Bool) (hrem : rem ≤ U64_MAX)
    (h : amountCalcOf rem rate ein = .ok amt) :
    amt = (if ein then netBudget rem rate else rem) ∧ amt ≤ rem := by
  unfold amountCalcOf at h
  have hm : FEE_RATE_MUL_VALUE = 1000000 := rfl
  have hu := u64max_val; have hu128 := u128max_val
  cases ein with
  | false => simp at h; subst h; simp
  | true =>
    unfold netBudget
    simp only [if_true, hm] at h ⊢
    have hp : rem * (1000000 - rate) ≤ rem * 1000000 := Nat.mul_le_mul_left _ (by omega)
    unfold checkedMulDiv at h
    rw [checkedMulDivRoundUpIf_ok _ _ _ false (by omega) (by omega)] at h
    obtain ⟨rfl, _⟩ := toU64_ok h
    exact ⟨rfl, Nat.div_le_of_le_mul (by omega)⟩

theorem step_core (rem rate L cur tgt : Nat) (ein dir : Bool) (r : SwapStep)
    (wf : WFStep rem rate L cur tgt dir) (h : computeSwap rem rate L cur tgt ein dir = .ok r) :
    ∃ amt, amt = (if ein then netBudget rem rate else rem) ∧ amt ≤ rem ∧
      MoveFacts L cur tgt r.nextPrice amt ein dir ∧
      r.amountIn = roundTok dir L (lo' cur r.nextPrice) (hi' cur r.nextPrice) true ∧
      r.amountOut = (if ein then roundTok (!dir) L (lo' cur r.nextPrice) (hi' cur r.nextPrice) false
                     else min rem (roundTok (!dir) L (lo' cur r.nextPrice) (hi' cur r.nextPrice) false)) ∧
      r.amountIn ≤ U64_MAX ∧
      stepFee rem r.amountIn rate r.nextPrice tgt ein = .ok r.feeAmount ∧
      (ein = true → r.amountIn ≤ amt) := by
  obtain ⟨initial, amt, unfixed, fixed, hinit, hcalc, hnext, hunf, hfix, hin, hout, hfee⟩ :=
    computeSwap_inv rem rate L cur tgt ein dir r h
  obtain ⟨ha1, ha2⟩ := amountCalc_spec rem rate amt ein wf.remU hcalc
  have hmin : MIN_SQRT_PRICE_X64 = 4295048016 := rfl
  have hmax : MAX_SQRT_PRICE_X64 = 79226673515401279992447579055 := rfl
  have hu128 := u128max_val
  have wfc := wf.cur_lo; have wfc2 := wf.cur_hi; have wft := wf.tgt_lo; have wfr := wf.remU
  obtain ⟨mf, hle⟩ := move_facts L cur tgt r.nextPrice amt ein dir initial (by omega) (by omega) (by omega) wf.LU
    (by omega) wf.dirOk hinit hnext
  obtain ⟨hf1, hf2⟩ := fixed_spec initial cur tgt r.nextPrice L ein dir fixed hinit hfix
  obtain ⟨hu1, hu2⟩ := unfixed_spec cur r.nextPrice L ein dir unfixed hunf
  have hamtIn : r.amountIn = roundTok dir L (lo' cur r.nextPrice) (hi' cur r.nextPrice) true := by
    rw [hin]
    cases ein with
    | true => rw [beq_true] at hf1; exact hf1
    | false => rw [beq_false, Bool.not_not] at hu1; exact hu1
  refine ⟨amt, ha1, ha2, mf, hamtIn, ?_, ?_, hfee, fun he => by rw [hamtIn]; exact hle he⟩
  · rw [hout]
    cases ein with
    | true =>
      rw [beq_true] at hu1
      simp only [Bool.not_true, Bool.false_and, Bool.false_eq_true, if_false, if_true]
      exact hu1
    | false =>
      rw [beq_false] at hf1
      simp only [Bool.not_false, Bool.true_and, Bool.false_eq_true, if_false, decide_eq_true_eq]
      rw [← hf1]
      split <;> omega
  · rw [hin]; cases ein <;> simp <;> omega

/-- C02(a): the step moves the price only in the trade direction and never past its target. -/
theorem step_direction (rem rate L cur tgt : Nat) (ein dir : Bool) (r : SwapStep)
    (wf : WFStep rem rate L cur tgt dir) (h : computeSwap rem rate L cur tgt ein dir = .ok r) :
    if dir then tgt ≤ r.nextPrice ∧ r.nextPrice ≤ cur else cur ≤ r.nextPrice ∧ r.nextPrice ≤ tgt := by
  obtain ⟨amt, _, _, mf, _⟩ := step_core rem rate L cur tgt ein dir r wf h
  exact mf.between

/-- C02(b): the input taken is the exact amount for the move actually made, rounded up
    (token A when a→b, token B when b→a). -/
theorem step_in_exact (rem rate L cur tgt : Nat) (ein dir : Bool) (r : SwapStep)
    (wf : WFStep rem rate L cur tgt dir) (h : computeSwap rem rate L cur tgt ein dir = .ok r) :
    r.amountIn = roundTok dir L (lo' cur r.nextPrice) (hi' cur r.nextPrice) true := by
  obtain ⟨amt, _, _, _, hin, _⟩ := step_core rem rate L cur tgt ein dir r wf h
  exact hin

/-- C02(c): the output paid is the exact amount rounded down, or the smaller requested exact-out amount. -/
theorem step_out_exact (rem rate L cur tgt : Nat) (ein dir : Bool) (r : SwapStep)
    (wf : WFStep rem rate L cur tgt dir) (h : computeSwap rem rate L cur tgt ein dir = .ok r) :
    r.amountOut = (if ein then roundTok (!dir) L (lo' cur r.nextPrice) (hi' cur r.nextPrice) false
                   else min rem (roundTok (!dir) L (lo' cur r.nextPrice) (hi' cur r.nextPrice) false)) := by
  obtain ⟨amt, _, _, _, _, hout, _⟩ := step_core rem rate L cur tgt ein dir r wf h
  exact hout

/-- C02(d): an exact-in step never spends more on the curve than the budget net of fee … -/
theorem step_in_le_budget (rem rate L cur tgt : Nat) (dir : Bool) (r : SwapStep)
    (wf : WFStep rem rate L cur tgt dir) (h : computeSwap rem rate L cur tgt true dir = .ok r) :
    r.amountIn ≤ netBudget rem rate := by
  obtain ⟨amt, ha, _, _, _, _, _, _, hle⟩ := step_core rem rate L cur tgt true dir r wf h
  have := hle rfl
  simp only [if_true] at ha
  omega

/-- C02(e): … and, when it stops short of the target, one representable price unit further would
    cost more than that budget: the price moved as far as the budget allows. -/
theorem step_tight_in (rem rate L cur tgt : Nat) (dir : Bool) (r : SwapStep)
    (wf : WFStep rem rate L cur tgt dir) (h : computeSwap rem rate L cur tgt true dir = .ok r)
    (hne : r.nextPrice ≠ tgt) :
    netBudget rem rate <
      roundTok dir L (lo' cur (if dir then r.nextPrice - 1 else r.nextPrice + 1))
        (hi' cur (if dir then r.nextPrice - 1 else r.nextPrice + 1)) true := by
  obtain ⟨amt, ha, _, mf, _⟩ := step_core rem rate L cur tgt true dir r wf h
  have := mf.in_tight rfl hne
  simp only [if_true] at ha
  rw [ha] at this
  exact this

/-- C02(f): an exact-out step that stops short of the target has moved no further than the request
    requires: one price unit less would deliver less than the requested amount. -/
theorem step_tight_out (rem rate L cur tgt : Nat) (dir : Bool) (r : SwapStep)
    (wf : WFStep rem rate L cur tgt dir) (h : computeSwap rem rate L cur tgt false dir = .ok r)
    (hne : r.nextPrice ≠ tgt) (hmoved : r.nextPrice ≠ cur) :
    roundTok (!dir) L (lo' cur (if dir then r.nextPrice + 1 else r.nextPrice - 1))
        (hi' cur (if dir then r.nextPrice + 1 else r.nextPrice - 1)) false < rem := by
  obtain ⟨amt, ha, _, mf, _⟩ := step_core rem rate L cur tgt false dir r wf h
  have := mf.out_tight rfl hne hmoved
  simp only [Bool.false_eq_true, if_false] at ha
  rw [ha] at this
  exact this

/-- C02(g) / C06 per-step: the fee is the unspendable remainder on a non-max exact-in step, and
    otherwise the curve input times rate/(1−rate) rounded up. -/
theorem step_fee (rem rate L cur tgt : Nat) (ein dir : Bool) (r : SwapStep)
    (wf : WFStep rem rate L cur tgt dir) (h : computeSwap rem rate L cur tgt ein dir = .ok r) :
    r.feeAmount = (if ein = true ∧ r.nextPrice ≠ tgt then rem - r.amountIn
                   else cdiv (r.amountIn * rate) (FEE_RATE_MUL_VALUE - rate)) := by
  obtain ⟨amt, ha, hle, mf, hin, _, hinU, hfee, hinle⟩ := step_core rem rate L cur tgt ein dir r wf h
  have hr : FEE_RATE_HARD_LIMIT = 100000 := rfl
  have hm : FEE_RATE_MUL_VALUE = 1000000 := rfl
  have hrate := wf.rateOk
  have hu := u64max_val; have hu128 := u128max_val; have hv := two64_val
  have hremU := wf.remU
  unfold stepFee at hfee
  by_cases c : ein = true ∧ r.nextPrice ≠ tgt
  · have hb : (ein && !(r.nextPrice == tgt)) = true := by simp [c.1, c.2]
    rw [if_pos hb, Except.ok.injEq] at hfee
    rw [if_pos c, ← hfee]
    exact wrapping_sub_eq _ _ _ (by have := hinle c.1; omega) (by omega)
  · have hb : ¬ (ein && !(r.nextPrice == tgt)) = true := by simpa using c
    rw [if_neg hb] at hfee
    rw [if_neg c]
    have hp : r.amountIn * rate ≤ 18446744073709551615 * 100000 := Nat.mul_le_mul (hu ▸ hinU) (by omega)
    unfold checkedMulDivRoundUp at hfee
    rw [checkedMulDivRoundUpIf_ok _ _ _ true (by omega) (by omega)] at hfee
    exact (toU64_ok hfee).1

/-- C02(h): when the step stops short of its target it has consumed the whole exact-in budget
    (curve input plus fee) or delivered the whole exact-out amount. -/
theorem step_exhausts (rem rate L cur tgt : Nat) (ein dir : Bool) (r : SwapStep)
    (wf : WFStep rem rate L cur tgt dir) (h : computeSwap rem rate L cur tgt ein dir = .ok r)
    (hne : r.nextPrice ≠ tgt) :
    if ein then r.amountIn + r.feeAmount = rem else r.amountOut = rem := by
  obtain ⟨amt, ha, hle, mf, hin, hout, _, _, hinle⟩ := step_core rem rate L cur tgt ein dir r wf h
  cases ein with
  | true =>
    simp only [if_true]
    have hf := step_fee rem rate L cur tgt true dir r wf h
    rw [if_pos ⟨rfl, hne⟩] at hf
    have := hinle rfl
    omega
  | false =>
    simp only [Bool.false_eq_true, if_false] at hout ha ⊢
    have := mf.out_ge rfl hne
    rw [hout]
    omega

-- Non-vacuity: a concrete step satisfies the hypotheses; a partial exact-in step and a max step
example : WFStep 1000 3000 1000000 18446744073709551616 18400000000000000000 true := by
  constructor <;> decide
example : computeSwap 1000 3000 1000000 18446744073709551616 18400000000000000000 true true
    = .ok { amountIn := 997, amountOut := 996, nextPrice := 18428370987834680440, feeAmount := 3 } := by decide +kernel
example : (computeSwap 100000 3000 1000000 18446744073709551616 18400000000000000000 true true).toOption.map (·.nextPrice)
    = some 18400000000000000000 := by decide +kernel

end WP.C02
