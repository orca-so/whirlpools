import WP.Props.C02.Inversion
/-  C02 helper: the fixed and unfixed deltas of a step are the exact amounts, rounded as stated. -/
namespace WP.C02
open WP WP.Gen

theorem unwrap_spec {t : R AmountDelta} {r v : Nat} (ht : ∀ d, t = .ok d → ∃ e, d = classify r e)
    (h : unwrapDelta t = .ok v) : v = r ∧ v ≤ U64_MAX := by
  obtain ⟨e, he⟩ := ht _ (unwrap_valid t v h)
  exact classify_valid he.symm

theorem getDeltaA_spec (p0 p1 L : Nat) (up : Bool) (v : Nat) (h : getAmountDeltaA p0 p1 L up = .ok v) :
    v = roundA L (lo' p0 p1) (hi' p0 p1) up ∧ v ≤ U64_MAX :=
  unwrap_spec (fun _ => tryDeltaA_spec) h

theorem getDeltaB_spec (p0 p1 L : Nat) (up : Bool) (v : Nat) (h : getAmountDeltaB p0 p1 L up = .ok v) :
    v = roundB L (lo' p0 p1) (hi' p0 p1) up ∧ v ≤ U64_MAX :=
  unwrap_spec (fun _ => tryDeltaB_spec) h

/-- the exact amount of the token selected by `isA`, rounded in direction `up` -/
def roundTok (isA : Bool) (L lo hi : Nat) (up : Bool) : Nat :=
  if isA then roundA L lo hi up else roundB L lo hi up

/-- `try_get_amount_delta_a` for token A, `try_get_amount_delta_b` for token B -/
def tryDelta (isA : Bool) (p0 p1 L : Nat) (up : Bool) : R AmountDelta :=
  if isA then tryGetAmountDeltaA p0 p1 L up else tryGetAmountDeltaB p0 p1 L up

theorem tryDelta_spec {isA : Bool} {p0 p1 L : Nat} {up : Bool} {d : AmountDelta} (h : tryDelta isA p0 p1 L up = .ok d) :
    ∃ e, d = classify (roundTok isA L (lo' p0 p1) (hi' p0 p1) up) e := by
  unfold tryDelta at h
  unfold roundTok
  split at h
  · rw [if_pos ‹_›]; exact tryDeltaA_spec h
  · rw [if_neg ‹_›]; exact tryDeltaB_spec h

/-- the fixed token (the one whose amount the caller names) is A exactly when the direction a→b
    agrees with the mode exact-in; the unfixed token is the other one, rounded the other way -/
theorem tryFixed_eq (cur tgt L : Nat) (ein dir : Bool) :
    tryGetAmountFixedDelta cur tgt L ein dir = tryDelta (dir == ein) cur tgt L ein := by
  unfold tryGetAmountFixedDelta tryDelta
  simp only [beq_iff_eq]

theorem getFixed_eq (cur tgt L : Nat) (ein dir : Bool) :
    getAmountFixedDelta cur tgt L ein dir = unwrapDelta (tryDelta (dir == ein) cur tgt L ein) := by
  unfold getAmountFixedDelta getAmountDeltaA getAmountDeltaB tryDelta
  simp only [apply_ite unwrapDelta, beq_iff_eq]

theorem getUnfixed_eq (cur tgt L : Nat) (ein dir : Bool) :
    getAmountUnfixedDelta cur tgt L ein dir = unwrapDelta (tryDelta (!(dir == ein)) cur tgt L (!ein)) := by
  unfold getAmountUnfixedDelta getAmountDeltaA getAmountDeltaB tryDelta
  simp only [apply_ite unwrapDelta, Bool.not_eq_true', beq_eq_false_iff_ne, ne_eq, ite_not]

theorem getFixed_spec (cur next L : Nat) (ein dir : Bool) (v : Nat) (h : getAmountFixedDelta cur next L ein dir = .ok v) :
    v = roundTok (dir == ein) L (lo' cur next) (hi' cur next) ein ∧ v ≤ U64_MAX := by
  rw [getFixed_eq] at h
  exact unwrap_spec (fun _ => tryDelta_spec) h

theorem unfixed_spec (cur next L : Nat) (ein dir : Bool) (v : Nat) (h : getAmountUnfixedDelta cur next L ein dir = .ok v) :
    v = roundTok (!(dir == ein)) L (lo' cur next) (hi' cur next) (!ein) ∧ v ≤ U64_MAX := by
  rw [getUnfixed_eq] at h
  exact unwrap_spec (fun _ => tryDelta_spec) h

theorem fixed_spec (initial : AmountDelta) (cur tgt next L : Nat) (ein dir : Bool) (v : Nat)
    (hi : tryGetAmountFixedDelta cur tgt L ein dir = .ok initial)
    (h : stepFixed initial next cur tgt L ein dir = .ok v) :
    v = roundTok (dir == ein) L (lo' cur next) (hi' cur next) ein ∧ v ≤ U64_MAX := by
  unfold stepFixed at h
  split at h
  · exact getFixed_spec _ _ _ _ _ _ h
  · rename_i hc
    -- the initial delta is reused only when the step ends on the target
    simp only [Bool.or_eq_true, Bool.not_eq_true', beq_eq_false_iff_ne, ne_eq, not_or, Decidable.not_not] at hc
    rw [hc.1]
    split at h
    · cases h
      rw [tryFixed_eq] at hi
      obtain ⟨e, he⟩ := tryDelta_spec hi
      exact classify_valid he.symm
    · cases h

end WP.C02
