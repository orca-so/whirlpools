import WP.Lemmas.Rounding
/-  C02 helper: the four pure-arithmetic cores (A-in, A-out, B-in, B-out) over ℕ.
    p = current price, t = target, n = next price, a = budget/request, Q = 2^64. -/
namespace WP.C02
open WP

theorem sub_split (L p n Q : Nat) (h : n ≤ p) : L * (p - n) * Q + n * L * Q = L * p * Q := by
  have : p - n + n = p := Nat.sub_add_cancel h
  calc L * (p - n) * Q + n * L * Q = L * (p - n + n) * Q := by ring
    _ = L * p * Q := by rw [this]

/-- token A in (price decreases): n = ⌈LpQ / (LQ + p·a)⌉ -/
theorem core_A_in (L p t a Q n : Nat) (ht : 2 ≤ t) (htp : t ≤ p)
    (hn : n = cdiv (L * p * Q) (L * Q + p * a)) (hd : 0 < L * Q + p * a)
    (need : a < cdiv (L * (p - t) * Q) (p * t)) :
    t ≤ n ∧ n ≤ p ∧ cdiv (L * (p - n) * Q) (p * n) ≤ a ∧ a < cdiv (L * (p - (n - 1)) * Q) (p * (n - 1)) := by
  have hp : 0 < p := by omega
  have hmul : ∀ k, k * (L * Q + p * a) = k * L * Q + a * (p * k) := fun k => by ring
  have F1 : L * p * Q ≤ n * (L * Q + p * a) := by rw [hn]; exact le_cdiv_mul hd
  have hnp : n ≤ p := by
    rw [hn, cdiv_le_iff hd, hmul p, show p * L * Q = L * p * Q by ring]
    exact Nat.le_add_right _ _
  have need' := (lt_cdiv_iff (Nat.mul_pos hp (by omega))).mp need
  have htn : t ≤ n := by
    by_contra hc
    have h1 : n * (L * Q + p * a) < t * (L * Q + p * a) := Nat.mul_lt_mul_of_pos_right (by omega) hd
    have := hmul t
    have := sub_split L p t Q htp
    omega
  refine ⟨htn, hnp, ?_, ?_⟩
  · rw [cdiv_le_iff (Nat.mul_pos hp (by omega))]
    have := hmul n
    have := sub_split L p n Q hnp
    omega
  · rw [lt_cdiv_iff (Nat.mul_pos hp (by omega))]
    have F2 : (n - 1) * (L * Q + p * a) < L * p * Q := (lt_cdiv_iff hd).mp (by omega)
    have := hmul (n - 1)
    have := sub_split L p (n - 1) Q (by omega)
    omega

/-- token A out (price increases): n = ⌈LpQ / (LQ − p·a)⌉, with p·a < LQ -/
theorem core_A_out (L p t a Q n : Nat) (hp : 0 < p) (hpt : p ≤ t) (hg : p * a < L * Q)
    (hn : n = cdiv (L * p * Q) (L * Q - p * a))
    (need : a < L * (t - p) * Q / (t * p)) :
    p ≤ n ∧ n ≤ t ∧ a ≤ L * (n - p) * Q / (n * p) ∧
      (n ≠ p → L * (n - 1 - p) * Q / ((n - 1) * p) < a) := by
  -- D = LQ − pa, used additively: k·D + k·(p·a) = k·L·Q
  obtain ⟨D, hD⟩ : ∃ D, L * Q - p * a = D := ⟨_, rfl⟩
  have hDs : D + p * a = L * Q := by omega
  have hd : 0 < D := by omega
  have hmul : ∀ k, k * D + a * (k * p) = k * L * Q := fun k => by
    calc k * D + a * (k * p) = k * (D + p * a) := by ring
      _ = k * L * Q := by rw [hDs]; ring
  rw [hD] at hn
  clear hD hg
  have F1 : L * p * Q ≤ n * D := by rw [hn]; exact le_cdiv_mul hd
  have need' : (a + 1) * (t * p) ≤ L * (t - p) * Q := (Nat.le_div_iff_mul_le (Nat.mul_pos (by omega) hp)).mp need
  have hpn : p ≤ n := by
    by_contra hc
    have h2 : n * D < p * D := Nat.mul_lt_mul_of_pos_right (by omega) hd
    have := hmul p
    have e : p * L * Q = L * p * Q := by ring
    have : 0 ≤ a * (p * p) := Nat.zero_le _
    omega
  have hnt : n ≤ t := by
    rw [hn, cdiv_le_iff hd]
    have := hmul t
    have := sub_split L t p Q hpt
    have e3 : (a + 1) * (t * p) = a * (t * p) + t * p := by ring
    have e5 : p * L * Q = L * p * Q := by ring
    have e6 : L * t * Q = t * L * Q := by ring
    omega
  refine ⟨hpn, hnt, ?_, ?_⟩
  · rw [Nat.le_div_iff_mul_le (Nat.mul_pos (by omega) hp)]
    have := hmul n
    have := sub_split L n p Q hpn
    have e5 : p * L * Q = L * p * Q := by ring
    have e7 : L * n * Q = n * L * Q := by ring
    omega
  · intro hne
    have hn1 : p ≤ n - 1 := by omega
    rw [Nat.div_lt_iff_lt_mul (Nat.mul_pos (by omega) hp)]
    have F2 : (n - 1) * D < L * p * Q := (lt_cdiv_iff hd).mp (by omega)
    have := hmul (n - 1)
    have := sub_split L (n - 1) p Q hn1
    have e5 : p * L * Q = L * p * Q := by ring
    have e7 : L * (n - 1) * Q = (n - 1) * L * Q := by ring
    omega
/-- token B in (price increases): n = p + ⌊aQ / L⌋ -/
theorem core_B_in (L p t a Q n : Nat) (hL : 0 < L) (hQ : 0 < Q) (hpt : p ≤ t)
    (hn : n = p + a * Q / L) (need : a < cdiv (L * (t - p)) Q) :
    p ≤ n ∧ n ≤ t ∧ cdiv (L * (n - p)) Q ≤ a ∧ a < cdiv (L * (n + 1 - p)) Q := by
  have need' := (lt_cdiv_iff hQ).mp need
  have hle : L * (a * Q / L) ≤ a * Q := Nat.mul_div_le _ _
  have hlt : a * Q < L * (a * Q / L + 1) := Nat.lt_mul_div_succ (a * Q) hL
  generalize a * Q / L = q at *
  subst hn
  have hqt : q ≤ t - p := by
    by_contra hc
    have h1 : L * (t - p + 1) ≤ L * q := Nat.mul_le_mul_left _ (by omega)
    rw [Nat.mul_add, Nat.mul_one] at h1
    omega
  refine ⟨Nat.le_add_right _ _, by omega, ?_, ?_⟩
  · rw [cdiv_le_iff hQ, Nat.add_sub_cancel_left]; exact hle
  · rw [lt_cdiv_iff hQ, Nat.add_assoc, Nat.add_sub_cancel_left]; exact hlt
/-- token B out (price decreases): n = p − ⌈aQ / L⌉ -/
theorem core_B_out (L p t a Q n : Nat) (hL : 0 < L) (hQ : 0 < Q) (htp : t ≤ p)
    (hc : cdiv (a * Q) L ≤ p) (hn : n = p - cdiv (a * Q) L)
    (need : a < L * (p - t) / Q) :
    t ≤ n ∧ n ≤ p ∧ a ≤ L * (p - n) / Q ∧ (n ≠ p → L * (p - (n + 1)) / Q < a) := by
  have need' : (a + 1) * Q ≤ L * (p - t) := (Nat.le_div_iff_mul_le hQ).mp need
  have hcle : a * Q ≤ L * cdiv (a * Q) L := Nat.mul_comm L _ ▸ le_cdiv_mul hL
  have hclt : L * (cdiv (a * Q) L - 1) < a * Q ∨ cdiv (a * Q) L = 0 := by
    by_cases h0 : cdiv (a * Q) L = 0
    · exact Or.inr h0
    · exact Or.inl (Nat.mul_comm L _ ▸ (lt_cdiv_iff hL).mp (by omega))
  have hcdef : cdiv (a * Q) L ≤ p - t := by
    rw [cdiv_le_iff hL, Nat.mul_comm (p - t) L]
    have : (a + 1) * Q = a * Q + Q := by ring
    omega
  generalize cdiv (a * Q) L = c at *
  subst hn
  refine ⟨by omega, Nat.sub_le _ _, ?_, ?_⟩
  · rw [Nat.le_div_iff_mul_le hQ, Nat.sub_sub_self hc]; exact hcle
  · intro hne
    rw [Nat.div_lt_iff_lt_mul hQ, Nat.sub_add_eq, Nat.sub_sub_self hc]
    omega
end WP.C02
