import WP.Model.SwapMath
import WP.Lemmas.Rounding
/-
  C02 helper lemmas: exact specifications of the component functions of `compute_swap`
  (amount deltas and next-price functions) in terms of floor / exact ceiling division.
-/
namespace WP.C02
open WP WP.Gen

/-- exact token-A amount between two prices, as numerator / denominator -/
def aNum (L lo hi : Nat) : Nat := L * (hi - lo) * TWO64
def aDen (lo hi : Nat) : Nat := hi * lo
/-- exact token-B amount between two prices -/
def bNum (L lo hi : Nat) : Nat := L * (hi - lo)

def lo' (p0 p1 : Nat) : Nat := (incOrder p0 p1).1
def hi' (p0 p1 : Nat) : Nat := (incOrder p0 p1).2

theorem lo_hi_cases (p0 p1 : Nat) :
    (p0 ≤ p1 ∧ lo' p0 p1 = p0 ∧ hi' p0 p1 = p1) ∨ (p1 < p0 ∧ lo' p0 p1 = p1 ∧ hi' p0 p1 = p0) := by
  unfold lo' hi' incOrder
  by_cases h : p0 > p1
  · right; simp [h]
  · left; simp [h]; omega

theorem two64_pos : 0 < TWO64 := by decide
theorem two64_val : TWO64 = 18446744073709551616 := rfl
theorem u64max_val : U64_MAX = 18446744073709551615 := rfl
theorem u128max_val : U128_MAX = 340282366920938463463374607431768211455 := rfl
theorem two128_val : TWO128 = 340282366920938463463374607431768211456 := rfl
theorem two256_val : TWO256 = 115792089237316195423570985008687907853269984665640564039457584007913129639936 := by decide
theorem u64_succ : U64_MAX + 1 = TWO64 := rfl
theorem u128_succ : U128_MAX + 1 = TWO128 := rfl
theorem maxPrice_le_u128 : MAX_SQRT_PRICE_X64 ≤ U128_MAX := by decide

/-- a product below 2^192 shifted left by 64 bits stays below 2^256 (`checked_shift_word_left`) -/
theorem shl64_lt {x : Nat} (h : ¬ x ≥ TWO128 * TWO64) : x * TWO64 < TWO256 :=
  calc x * TWO64 < TWO128 * TWO64 * TWO64 := Nat.mul_lt_mul_of_pos_right (by omega) two64_pos
    _ = TWO256 := by decide

/-- rounding used by the A-delta: value before the range checks -/
def roundA (L lo hi : Nat) (up : Bool) : Nat :=
  if up then cdiv (aNum L lo hi) (aDen lo hi) else aNum L lo hi / aDen lo hi

def roundB (L lo hi : Nat) (up : Bool) : Nat :=
  if up then cdiv (bNum L lo hi) TWO64 else bNum L lo hi / TWO64

/-- an amount as `AmountDeltaU64` reports it: valid iff it fits a u64, else the error code `e` -/
def classify (r : Nat) (e : Err) : AmountDelta := if r > U64_MAX then .exceedsMax e else .valid r

theorem classify_valid {r v : Nat} {e : Err} (h : classify r e = .valid v) : v = r ∧ v ≤ U64_MAX := by
  unfold classify at h
  split at h
  · cases h
  · cases h; exact ⟨rfl, by omega⟩

theorem classify_lte {r amt : Nat} {e : Err} (h : (classify r e).lte amt = false) (hamt : amt ≤ U64_MAX) : amt < r := by
  unfold classify at h
  split at h
  · omega
  · simpa [AmountDelta.lte] using h

/-- the two range checks of the A-delta (`u128`, then `u64`) -/
theorem classify_two (r : Nat) :
    (if r > U128_MAX then (.ok (.exceedsMax .NumberDownCastError) : R AmountDelta)
      else if r > U64_MAX then .ok (.exceedsMax .TokenMaxExceeded) else .ok (.valid r)) =
    .ok (classify r (if r > U128_MAX then .NumberDownCastError else .TokenMaxExceeded)) := by
  have := u64max_val; have := u128max_val
  unfold classify
  split
  · rw [if_pos (by omega)]
  · split <;> rfl

theorem tryDeltaA_eq (p0 p1 L : Nat) (up : Bool) :
    tryGetAmountDeltaA p0 p1 L up =
      if L * (hi' p0 p1 - lo' p0 p1) ≥ TWO128 * TWO64 then .error .MultiplicationOverflow
      else if hi' p0 p1 * lo' p0 p1 = 0 then .error .Panic
      else .ok (classify (roundA L (lo' p0 p1) (hi' p0 p1) up)
        (if roundA L (lo' p0 p1) (hi' p0 p1) up > U128_MAX then .NumberDownCastError else .TokenMaxExceeded)) := by
  unfold tryGetAmountDeltaA lo' hi'
  generalize (incOrder p0 p1).1 = lo
  generalize (incOrder p0 p1).2 = hi
  simp only []
  by_cases hs : L * (hi - lo) ≥ TWO128 * TWO64
  · rw [if_pos hs, if_pos hs]
  · rw [if_neg hs, if_neg hs]
    by_cases hd : hi * lo = 0
    · rw [if_pos hd, if_pos hd]
    · rw [if_neg hd, if_neg hd, roundUpIf_wrap_eq _ _ _ up (shl64_lt hs) (by omega)]
      exact classify_two _

theorem tryDeltaB_eq (p0 p1 L : Nat) (up : Bool) :
    tryGetAmountDeltaB p0 p1 L up =
      .ok (classify (roundB L (lo' p0 p1) (hi' p0 p1) up)
        (if bNum L (lo' p0 p1) (hi' p0 p1) > U128_MAX then .MultiplicationShiftRightOverflow else .MultiplicationOverflow)) := by
  have h64 := two64_pos; have v64 := two64_val; have u64 := u64max_val; have := u128max_val
  unfold tryGetAmountDeltaB lo' hi' classify roundB bNum
  simp only []
  generalize (incOrder p0 p1).2 - (incOrder p0 p1).1 = d
  rw [← roundUpIf_eq _ _ up h64]
  by_cases hz : (decide (L = 0) || decide (d = 0)) = true
  · have hp : L * d = 0 := by
      simp only [Bool.or_eq_true, decide_eq_true_eq] at hz
      rcases hz with h | h <;> simp [h]
    rw [if_pos hz, hp, if_neg (by simp), if_neg (by simp), Nat.zero_div]
  · rw [if_neg hz]
    by_cases ho : L * d > U128_MAX
    · have hq : U64_MAX < L * d / TWO64 := by rw [Nat.lt_div_iff_mul_lt h64, u64, v64]; omega
      rw [if_pos ho, if_pos ho, if_pos (by split <;> omega)]
    · have hq : L * d / TWO64 < TWO64 := by rw [Nat.div_lt_iff_lt_mul h64, v64]; omega
      rw [if_neg ho, if_neg ho, Nat.mod_eq_of_lt hq]
      generalize L * d / TWO64 = q at *
      generalize (up && decide (L * d % TWO64 > 0)) = rnd
      -- rounding up overflows a u64 exactly when the quotient is `u64::MAX`
      cases rnd with
      | false => rw [if_neg (by simp), if_neg (by simp), if_neg (by simp; omega)]
      | true =>
        by_cases hm : q = U64_MAX
        · rw [if_pos (by simp [hm]), if_pos rfl, if_pos (by omega)]
        · rw [if_neg (by simp [hm]), if_pos rfl, if_neg (by omega)]

theorem tryDeltaA_spec {p0 p1 L : Nat} {up : Bool} {d : AmountDelta} (h : tryGetAmountDeltaA p0 p1 L up = .ok d) :
    ∃ e, d = classify (roundA L (lo' p0 p1) (hi' p0 p1) up) e := by
  rw [tryDeltaA_eq] at h
  by_cases hs : L * (hi' p0 p1 - lo' p0 p1) ≥ TWO128 * TWO64
  · rw [if_pos hs] at h; cases h
  · rw [if_neg hs] at h
    by_cases hd : hi' p0 p1 * lo' p0 p1 = 0
    · rw [if_pos hd] at h; cases h
    · rw [if_neg hd] at h; cases h; exact ⟨_, rfl⟩

theorem tryDeltaB_spec {p0 p1 L : Nat} {up : Bool} {d : AmountDelta} (h : tryGetAmountDeltaB p0 p1 L up = .ok d) :
    ∃ e, d = classify (roundB L (lo' p0 p1) (hi' p0 p1) up) e := by
  rw [tryDeltaB_eq] at h
  cases h; exact ⟨_, rfl⟩

theorem checkedMulDivRoundUpIf_ok (n0 n1 d : Nat) (up : Bool) (hd : d ≠ 0) (hp : n0 * n1 ≤ U128_MAX) :
    checkedMulDivRoundUpIf n0 n1 d up = .ok (if up then cdiv (n0 * n1) d else n0 * n1 / d) := by
  unfold checkedMulDivRoundUpIf
  rw [if_neg hd, if_neg (by omega)]
  simp only []
  rw [roundUpIf_eq _ _ up (by omega)]

theorem toU64_ok {x v : Nat} (h : toU64 x = .ok v) : v = x ∧ x ≤ U64_MAX := by
  unfold toU64 at h
  split at h
  · cases h; exact ⟨rfl, by assumption⟩
  · cases h

theorem unwrap_valid (r : R AmountDelta) (v : Nat) (h : unwrapDelta r = .ok v) : r = .ok (.valid v) := by
  unfold unwrapDelta at h
  split at h
  · cases h; rfl
  · cases h
  · cases h

end WP.C02
