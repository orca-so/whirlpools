import WP.Props.C02.NextPrice
import WP.Props.C02.Arith
/-  C02 helper: the next price of a step lies between current and target; budget/tightness facts. -/
namespace WP.C02
open WP WP.Gen

/-- the facts about one step's price move, per (mode, direction), in terms of the net budget `amt` -/
structure MoveFacts (L cur tgt next amt : Nat) (ein dir : Bool) : Prop where
  between : if dir then tgt ≤ next ∧ next ≤ cur else cur ≤ next ∧ next ≤ tgt
  /-- non-max exact-in: the exact input of the move, rounded up, fits the budget -/
  in_le : ein = true → next ≠ tgt →
    roundTok dir L (lo' cur next) (hi' cur next) true ≤ amt
  /-- non-max exact-in: one price unit further costs more than the budget -/
  in_tight : ein = true → next ≠ tgt →
    amt < roundTok dir L (lo' cur (if dir then next - 1 else next + 1)) (hi' cur (if dir then next - 1 else next + 1)) true
  /-- non-max exact-out: the exact output of the move, rounded down, covers the request -/
  out_ge : ein = false → next ≠ tgt →
    amt ≤ roundTok (!dir) L (lo' cur next) (hi' cur next) false
  /-- non-max exact-out: one price unit less delivers less than the request -/
  out_tight : ein = false → next ≠ tgt → next ≠ cur →
    roundTok (!dir) L (lo' cur (if dir then next + 1 else next - 1)) (hi' cur (if dir then next + 1 else next - 1)) false < amt

theorem lo_hi_of_le {a b : Nat} (h : a ≤ b) : lo' a b = a ∧ hi' a b = b := by
  rcases lo_hi_cases a b with ⟨_, x, y⟩ | ⟨c, _, _⟩
  · exact ⟨x, y⟩
  · omega

theorem lo_hi_of_ge {a b : Nat} (h : b ≤ a) : lo' a b = b ∧ hi' a b = a := by
  rcases lo_hi_cases a b with ⟨c, x, y⟩ | ⟨_, x, y⟩
  · have : a = b := by omega
    subst this; exact ⟨x, y⟩
  · exact ⟨x, y⟩

theorem roundTok_of_le {a b : Nat} (h : a ≤ b) {isA : Bool} {L : Nat} {up : Bool} :
    roundTok isA L (lo' a b) (hi' a b) up = roundTok isA L a b up := by
  rw [(lo_hi_of_le h).1, (lo_hi_of_le h).2]

theorem roundTok_of_ge {a b : Nat} (h : b ≤ a) {isA : Bool} {L : Nat} {up : Bool} :
    roundTok isA L (lo' a b) (hi' a b) up = roundTok isA L b a up := by
  rw [(lo_hi_of_ge h).1, (lo_hi_of_ge h).2]

theorem roundTok_A_up {L lo hi : Nat} : roundTok true L lo hi true = cdiv (L * (hi - lo) * TWO64) (hi * lo) := by
  simp only [roundTok, roundA, aNum, aDen, if_true]
theorem roundTok_A_down {L lo hi : Nat} : roundTok true L lo hi false = L * (hi - lo) * TWO64 / (hi * lo) := by
  simp only [roundTok, roundA, aNum, aDen, if_true, Bool.false_eq_true, if_false]
theorem roundTok_B_up {L lo hi : Nat} : roundTok false L lo hi true = cdiv (L * (hi - lo)) TWO64 := by
  simp only [roundTok, roundB, bNum, if_true, Bool.false_eq_true, if_false]
theorem roundTok_B_down {L lo hi : Nat} : roundTok false L lo hi false = L * (hi - lo) / TWO64 := by
  simp only [roundTok, roundB, bNum, Bool.false_eq_true, if_false]

/-- without liquidity there is no token A between two prices -/
theorem liq_pos_of_lt_A {a L lo hi : Nat} {up : Bool} (h : a < roundTok true L lo hi up) : 0 < L := by
  apply Nat.pos_of_ne_zero
  rintro rfl
  have z : cdiv 0 (hi * lo) = 0 := by unfold cdiv; rw [Nat.div_eq_zero_iff]; omega
  cases up
  · rw [roundTok_A_down, Nat.zero_mul, Nat.zero_mul, Nat.zero_div] at h; omega
  · rw [roundTok_A_up, Nat.zero_mul, Nat.zero_mul, z] at h; omega

/-- when the step does not take the max branch, reaching the target needs more than the budget -/
theorem need_gt (L cur tgt amt : Nat) (ein dir : Bool) (initial : AmountDelta) (hamtU : amt ≤ U64_MAX)
    (hinit : tryGetAmountFixedDelta cur tgt L ein dir = .ok initial)
    (hl : initial.lte amt = false) :
    amt < roundTok (dir == ein) L (lo' cur tgt) (hi' cur tgt) ein := by
  rw [tryFixed_eq] at hinit
  obtain ⟨e, rfl⟩ := tryDelta_spec hinit
  exact classify_lte hl hamtU

/-- the price move of a step: `MoveFacts`, and on every exact-in step (also one that reaches its
    target) the exact input of the move fits the budget -/
theorem move_facts (L cur tgt next amt : Nat) (ein dir : Bool) (initial : AmountDelta)
    (hcur : 2 ≤ cur) (htgt : 2 ≤ tgt) (hcurU : cur ≤ U128_MAX) (hLU : L ≤ U128_MAX) (hamtU : amt ≤ U64_MAX)
    (hdir : if dir then tgt ≤ cur else cur ≤ tgt)
    (hinit : tryGetAmountFixedDelta cur tgt L ein dir = .ok initial)
    (hnext : stepNext initial amt cur tgt L ein dir = .ok next) :
    MoveFacts L cur tgt next amt ein dir ∧
      (ein = true → roundTok dir L (lo' cur next) (hi' cur next) true ≤ amt) := by
  have h64 := two64_pos
  unfold stepNext at hnext
  by_cases hl : initial.lte amt = true
  · simp only [hl, if_true, Except.ok.injEq] at hnext
    subst hnext
    refine ⟨⟨?_, ?_, ?_, ?_, ?_⟩, ?_⟩
    · cases dir <;> simp at hdir ⊢ <;> omega
    iterate 4 (intros; contradiction)
    · -- max step: the initial delta is the exact input to the target and was within the budget
      intro he
      subst he
      rw [tryFixed_eq] at hinit
      obtain ⟨e, rfl⟩ := tryDelta_spec hinit
      rw [beq_true] at hl
      unfold classify at hl
      split at hl
      · cases hl
      · simpa [AmountDelta.lte] using hl
  · have hl' : initial.lte amt = false := by simpa using hl
    simp only [hl', Bool.false_eq_true, if_false] at hnext
    have need := need_gt L cur tgt amt ein dir initial hamtU hinit hl'
    unfold getNextSqrtPrice at hnext
    cases ein with
    | true =>
      cases dir with
      | true =>
        -- token A in
        simp only [if_true] at hnext hdir
        rw [roundTok_of_ge hdir, beq_true] at need
        have hLpos := liq_pos_of_lt_A need
        rw [roundTok_A_up] at need
        have hform := (nspA_spec cur L amt next true hLpos hcurU hLU hamtU hnext).2
        have hd : 0 < L * TWO64 + cur * amt := by
          have := Nat.mul_pos hLpos h64; omega
        obtain ⟨c1, c2, c3, c4⟩ := core_A_in L cur tgt amt TWO64 next htgt hdir hform hd need
        rw [← roundTok_A_up, ← roundTok_of_ge c2] at c3
        refine ⟨⟨?_, fun _ _ => c3, fun _ _ => ?_, nofun, nofun⟩, fun _ => c3⟩
        · simp; exact ⟨c1, c2⟩
        · rw [if_pos rfl, roundTok_of_ge (show next - 1 ≤ cur by omega), roundTok_A_up]; exact c4
      | false =>
        -- token B in
        simp only [Bool.false_eq_true, if_false] at hdir
        simp only [Bool.true_eq_false, if_false] at hnext
        rw [roundTok_of_le hdir, beq_true, roundTok_B_up] at need
        obtain ⟨hLpos, hform⟩ := nspB_spec cur L amt next true hnext
        simp only [if_true] at hform
        obtain ⟨c1, c2, c3, c4⟩ := core_B_in L cur tgt amt TWO64 next hLpos h64 hdir hform need
        rw [← roundTok_B_up, ← roundTok_of_le c1] at c3
        refine ⟨⟨?_, fun _ _ => c3, fun _ _ => ?_, nofun, nofun⟩, fun _ => c3⟩
        · simp; exact ⟨c1, c2⟩
        · rw [if_neg Bool.false_ne_true, roundTok_of_le (show cur ≤ next + 1 by omega), roundTok_B_up]; exact c4
    | false =>
      refine ⟨?_, nofun⟩
      cases dir with
      | true =>
        -- token B out
        simp only [if_true] at hdir
        simp only [Bool.false_eq_true, if_false] at hnext
        rw [roundTok_of_ge hdir, beq_false, Bool.not_true, roundTok_B_down] at need
        obtain ⟨hLpos, hform⟩ := nspB_spec cur L amt next false hnext
        simp only [Bool.false_eq_true, if_false] at hform
        obtain ⟨c1, c2, c3, c4⟩ := core_B_out L cur tgt amt TWO64 next hLpos h64 hdir hform.1 hform.2 need
        refine ⟨?_, nofun, nofun, fun _ _ => ?_, fun _ _ hnc => ?_⟩
        · simp; exact ⟨c1, c2⟩
        · rw [roundTok_of_ge c2, Bool.not_true, roundTok_B_down]; exact c3
        · rw [if_pos rfl, roundTok_of_ge (show next + 1 ≤ cur by omega), Bool.not_true, roundTok_B_down]; exact c4 hnc
      | false =>
        -- token A out
        simp only [Bool.false_eq_true, if_false] at hdir
        simp only [if_true] at hnext
        rw [roundTok_of_le hdir, beq_false, Bool.not_false] at need
        have hLpos := liq_pos_of_lt_A need
        rw [roundTok_A_down] at need
        obtain ⟨hg, hform⟩ := nspA_spec cur L amt next false hLpos hcurU hLU hamtU hnext
        simp only [Bool.false_eq_true, if_false] at hform
        obtain ⟨c1, c2, c3, c4⟩ := core_A_out L cur tgt amt TWO64 next (by omega) hdir (hg rfl) hform need
        refine ⟨?_, nofun, nofun, fun _ _ => ?_, fun _ _ hnc => ?_⟩
        · simp; exact ⟨c1, c2⟩
        · rw [roundTok_of_le c1, Bool.not_false, roundTok_A_down]; exact c3
        · rw [if_neg Bool.false_ne_true, roundTok_of_le (show cur ≤ next - 1 by omega), Bool.not_false, roundTok_A_down]; exact c4 hnc

end WP.C02
