import WP.Props.C02.Amounts
/-  C02 helper: exact specifications of the next-price functions. -/
namespace WP.C02
open WP WP.Gen

/-- the checks on a computed next price: it fits a u128 and lies within the protocol bounds -/
def checkPrice (n : Nat) : R Nat :=
  if n ≤ U128_MAX then
    if n < MIN_SQRT_PRICE_X64 then .error .TokenMinSubceeded
    else if n > MAX_SQRT_PRICE_X64 then .error .TokenMaxExceeded else .ok n
  else .error .NumberDownCastError

theorem checkPrice_ok {n v : Nat} (h : checkPrice n = .ok v) : v = n ∧ MIN_SQRT_PRICE_X64 ≤ n ∧ n ≤ MAX_SQRT_PRICE_X64 := by
  unfold checkPrice at h
  split at h
  · split at h
    · cases h
    · split at h
      · cases h
      · cases h; exact ⟨rfl, by omega, by omega⟩
  · cases h

/-- `div_round_up_if_u256` of a numerator below 2^256: the rounded quotient does not wrap -/
theorem div256_eq (num den : Nat) (hnum : num < TWO256) :
    divRoundUpIfU256 num den true =
      if den = 0 then .error .Panic
      else if cdiv num den ≤ U128_MAX then .ok (cdiv num den) else .error .NumberDownCastError := by
  unfold divRoundUpIfU256
  split
  · rfl
  · simp only []
    rw [roundUpIf_wrap_eq _ _ _ true hnum (by omega), if_pos rfl]

/-- `get_next_sqrt_price_from_a_round_up` on machine-sized arguments: next = ⌈L·p·Q / (L·Q ± p·amt)⌉,
    checked; the U256 sum and the rounded quotient do not wrap -/
theorem nspA_eq (p L amt : Nat) (ein : Bool) (hamt : amt ≠ 0) (hpU : p ≤ U128_MAX) (hLU : L ≤ U128_MAX) (haU : amt ≤ U64_MAX) :
    getNextSqrtPriceFromARoundUp p L amt ein =
      if L * p ≥ TWO128 * TWO64 then .error .MultiplicationOverflow
      else if !ein && L * TWO64 ≤ p * amt then .error .DivideByZero
      else if (if ein then L * TWO64 + p * amt else L * TWO64 - p * amt) = 0 then .error .Panic
      else checkPrice (cdiv (L * p * TWO64) (if ein then L * TWO64 + p * amt else L * TWO64 - p * amt)) := by
  unfold getNextSqrtPriceFromARoundUp
  rw [if_neg hamt]
  simp only []
  by_cases hov : L * p ≥ TWO128 * TWO64
  · rw [if_pos hov, if_pos hov]
  · rw [if_neg hov, if_neg hov]
    by_cases hg : (!ein && decide (L * TWO64 ≤ p * amt)) = true
    · rw [if_pos hg, if_pos hg]
    · have hsum : L * TWO64 + p * amt < TWO256 := by
        have a : L * TWO64 ≤ U128_MAX * TWO64 := Nat.mul_le_mul_right _ hLU
        have b : p * amt ≤ U128_MAX * U64_MAX := Nat.mul_le_mul hpU haU
        have c : U128_MAX * TWO64 + U128_MAX * U64_MAX < TWO256 := by decide
        omega
      rw [if_neg hg, if_neg hg, Nat.mod_eq_of_lt hsum, div256_eq _ _ (shl64_lt hov)]
      unfold checkPrice
      generalize (if ein = true then L * TWO64 + p * amt else L * TWO64 - p * amt) = den
      by_cases hd : den = 0
      · rw [if_pos hd, if_pos hd]
      · rw [if_neg hd, if_neg hd]
        by_cases hc : cdiv (L * p * TWO64) den ≤ U128_MAX
        · rw [if_pos hc, if_pos hc]
        · rw [if_neg hc, if_neg hc]

theorem nspA_spec (p L amt n : Nat) (ein : Bool) (hL : 0 < L) (hpU : p ≤ U128_MAX) (hLU : L ≤ U128_MAX) (haU : amt ≤ U64_MAX)
    (h : getNextSqrtPriceFromARoundUp p L amt ein = .ok n) :
    (ein = false → p * amt < L * TWO64) ∧
    n = cdiv (L * p * TWO64) (if ein then L * TWO64 + p * amt else L * TWO64 - p * amt) := by
  have hLQ : 0 < L * TWO64 := Nat.mul_pos hL two64_pos
  by_cases ha : amt = 0
  · -- nothing to trade: the price stays, and p = ⌈L·p·Q / (L·Q)⌉
    subst ha
    unfold getNextSqrtPriceFromARoundUp at h
    rw [if_pos rfl] at h
    cases h
    refine ⟨fun _ => by omega, ?_⟩
    rw [show L * p * TWO64 = p * (L * TWO64) by ring, Nat.mul_zero, Nat.add_zero, Nat.sub_zero, ite_self,
      cdiv_mul_right _ _ hLQ]
  · rw [nspA_eq p L amt ein ha hpU hLU haU] at h
    by_cases hov : L * p ≥ TWO128 * TWO64
    · rw [if_pos hov] at h; cases h
    · rw [if_neg hov] at h
      by_cases hg : (!ein && decide (L * TWO64 ≤ p * amt)) = true
      · rw [if_pos hg] at h; cases h
      · rw [if_neg hg] at h
        by_cases hd : (if ein then L * TWO64 + p * amt else L * TWO64 - p * amt) = 0
        · rw [if_pos hd] at h; cases h
        · rw [if_neg hd] at h
          refine ⟨fun he => ?_, (checkPrice_ok h).1⟩
          simpa [he] using hg

/-- `get_next_sqrt_price_from_b_round_down`: the price moves by amt·Q / L, rounded against the trader -/
theorem nspB_eq (p L amt : Nat) (ein : Bool) (hL : L ≠ 0) :
    getNextSqrtPriceFromBRoundDown p L amt ein =
      if ein then
        if p + amt * TWO64 / L ≤ U128_MAX then .ok (p + amt * TWO64 / L) else .error .SqrtPriceOutOfBounds
      else
        if cdiv (amt * TWO64) L ≤ p then .ok (p - cdiv (amt * TWO64) L) else .error .SqrtPriceOutOfBounds := by
  unfold getNextSqrtPriceFromBRoundDown divRoundUpIf
  simp only []
  rw [if_neg hL, roundUpIf_eq _ _ _ (by omega)]
  cases ein <;> simp only [Bool.not_true, Bool.not_false, Bool.false_eq_true, if_true, if_false]

theorem nspB_spec (p L amt n : Nat) (ein : Bool)
    (h : getNextSqrtPriceFromBRoundDown p L amt ein = .ok n) :
    0 < L ∧ (if ein then n = p + amt * TWO64 / L else (cdiv (amt * TWO64) L ≤ p ∧ n = p - cdiv (amt * TWO64) L)) := by
  have hL : L ≠ 0 := by
    intro h0
    unfold getNextSqrtPriceFromBRoundDown divRoundUpIf at h
    simp only [] at h
    rw [if_pos h0] at h
    cases h
  rw [nspB_eq p L amt ein hL] at h
  refine ⟨by omega, ?_⟩
  cases ein with
  | true =>
    rw [if_pos rfl] at h ⊢
    split at h
    · cases h; rfl
    · cases h
  | false =>
    rw [if_neg (by simp)] at h ⊢
    split at h
    · cases h; exact ⟨by assumption, rfl⟩
    · cases h
end WP.C02
