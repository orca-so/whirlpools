import WP.Props.C06
/-
  Property C03 — swaps honour the trader's amount, price-limit and slippage bounds.

  Proved about the model of swap_manager::swap (any tick layout, any number of steps, static or
  adaptive fee): amount bounds, the limit guard, "partial ⇒ stopped at the limit", the exact-out
  partial-fill rule, and the threshold decision of the handlers (`swapThreshold`).
  That the price ends between the limit and the start price needs the tick/price consistency
  invariant (C09) carried through the loop: proved (static and adaptive fee) in
  WP/Props/SwapPath.lean (`swap_path`) for a tick/price-consistent starting state.  The unconditional
  `PriceBounded` below (any starting state) is not claimed.
-/
namespace WP.C03
open WP WP.Gen WP.C06

/-- the amount of the specified token actually used / delivered -/
def specifiedUsed (u : PostSwap) (isInput aToB : Bool) : Nat :=
  if aToB = isInput then u.amountA else u.amountB

/-- C03(a): never more than the specified input (exact-in) / output (exact-out). -/
theorem swap_specified_le (p : PoolD) (ticks : TickMap) (arrays : List Int) (amount limit : Nat) (isInput aToB : Bool)
    (now : Nat) (af : Option AfInfo) (fuel : Nat) (u : PostSwap)
    (h : swap p ticks arrays amount limit isInput aToB now af fuel = .ok u) :
    specifiedUsed u isInput aToB ≤ amount := by
  obtain ⟨rewards, fm, s, _, _, _, _, hfin⟩ := swap_ok.mp h
  unfold specifiedUsed
  rw [(swapFinish_amounts hfin).2.2]
  exact Nat.sub_le _ _

/-- C03(b): the adjusted limit is within the protocol bounds and strictly on the trade side of the
    starting price, and the amount is non-zero — otherwise the swap fails before touching anything. -/
theorem swap_limit_guard (p : PoolD) (ticks : TickMap) (arrays : List Int) (amount limit : Nat) (isInput aToB : Bool)
    (now : Nat) (af : Option AfInfo) (fuel : Nat) (u : PostSwap)
    (h : swap p ticks arrays amount limit isInput aToB now af fuel = .ok u) :
    MIN_SQRT_PRICE_X64 ≤ adjLimit limit aToB ∧ adjLimit limit aToB ≤ MAX_SQRT_PRICE_X64 ∧
    (if aToB then adjLimit limit aToB < p.price else p.price < adjLimit limit aToB) ∧ amount ≠ 0 := by
  obtain ⟨_, _, _, hg, _⟩ := swap_ok.mp h
  unfold swapGuard at hg
  simp only [] at hg
  by_cases c1 : (!(decide (MIN_SQRT_PRICE_X64 ≤ adjLimit limit aToB) && decide (adjLimit limit aToB ≤ MAX_SQRT_PRICE_X64))) = true
  · rw [if_pos c1] at hg; cases hg
  · rw [if_neg c1] at hg
    by_cases c2 : ((aToB && decide (adjLimit limit aToB ≥ p.price)) || (!aToB && decide (adjLimit limit aToB ≤ p.price))) = true
    · rw [if_pos c2] at hg; cases hg
    · rw [if_neg c2] at hg
      by_cases c3 : amount = 0
      · rw [if_pos c3] at hg; cases hg
      · simp at c1 c2
        refine ⟨by omega, by omega, ?_, c3⟩
        cases aToB <;> simp at c2 ⊢ <;> omega

/-- C03(c): if less than the specified amount was used, the swap stopped exactly at the price limit
    (the explicit one, or the protocol bound when none was given). -/
theorem swap_partial_at_limit (p : PoolD) (ticks : TickMap) (arrays : List Int) (amount limit : Nat) (isInput aToB : Bool)
    (now : Nat) (af : Option AfInfo) (fuel : Nat) (u : PostSwap) (hp : p.protoRate ≤ PROTOCOL_FEE_RATE_MUL_VALUE)
    (h : swap p ticks arrays amount limit isInput aToB now af fuel = .ok u)
    (hless : specifiedUsed u isInput aToB < amount) : u.price = adjLimit limit aToB := by
  obtain ⟨rewards, fm, s, _, _, _, hs, hfin⟩ := swap_ok.mp h
  obtain ⟨_, hexit⟩ := loop_preserves _ amount hp fuel _ s none (loopInv_init p ticks arrays amount limit isInput aToB rewards fm) hs
  unfold specifiedUsed at hless
  rw [(swapFinish_amounts hfin).2.2] at hless
  obtain ⟨_, fm', _, rfl⟩ := swapFinish_ok.mp hfin
  rcases hexit with z | e
  · rw [z] at hless; exact absurd hless (Nat.lt_irrefl _)
  · exact e

/-- C03(d): an exact-out swap with no explicit limit delivers the full amount or fails. -/
theorem exact_out_no_limit_full_or_fail (p : PoolD) (ticks : TickMap) (arrays : List Int) (amount : Nat) (aToB : Bool)
    (now : Nat) (af : Option AfInfo) (fuel : Nat) (u : PostSwap) (hp : p.protoRate ≤ PROTOCOL_FEE_RATE_MUL_VALUE)
    (h : swap p ticks arrays amount NO_EXPLICIT_SQRT_PRICE_LIMIT false aToB now af fuel = .ok u) :
    (if aToB then u.amountB else u.amountA) = amount :=
  (swap_accounting p ticks arrays amount _ false aToB now af fuel u hp h).2.2.2.2.2.1 rfl rfl

/-- the threshold comparison of the swap handlers (swap.rs / v2/swap.rs):
    exact-in fails when the output is below the minimum, exact-out when the input is above the maximum -/
def swapThreshold (isInput aToB : Bool) (amountA amountB threshold : Nat) : R Unit :=
  if isInput then
    (if (aToB && threshold > amountB) || (!aToB && threshold > amountA) then .error .AmountOutBelowMinimum else .ok ())
  else
    (if (aToB && threshold < amountA) || (!aToB && threshold < amountB) then .error .AmountInAboveMaximum else .ok ())

/-- C03(e): the transaction goes through only if the realised output is at least the stated minimum
    (exact-in) / the realised input at most the stated maximum (exact-out). -/
theorem threshold_spec (isInput aToB : Bool) (a b thr : Nat) (h : swapThreshold isInput aToB a b thr = .ok ()) :
    if isInput then thr ≤ (if aToB then b else a) else (if aToB then a else b) ≤ thr := by
  unfold swapThreshold at h
  cases isInput <;> cases aToB <;> simp at h ⊢ <;> omega

/-- from ANY starting state the final price lies between the adjusted limit and the start price: not claimed (see the header) -/
def PriceBounded : Prop :=
  ∀ (p : PoolD) (ticks : TickMap) (arrays : List Int) (amount limit : Nat) (isInput aToB : Bool) (now : Nat)
    (af : Option AfInfo) (fuel : Nat) (u : PostSwap),
    swap p ticks arrays amount limit isInput aToB now af fuel = .ok u →
    if aToB then adjLimit limit aToB ≤ u.price ∧ u.price ≤ p.price else p.price ≤ u.price ∧ u.price ≤ adjLimit limit aToB

-- Non-vacuity: a concrete exact-in swap over one initialized range (two positions' worth of ticks)
example : ((swap { ts := 64, feeRate := 3000, protoRate := 300, liq := 1000000000, price := 18446744073709551616, tick := 0 }
    [(-128, { initialized := true, net := 1000000000, gross := 1000000000 }), (128, { initialized := true, net := -1000000000, gross := 1000000000 })]
    [0, -5632] 100000 0 true true 10 none 1000).toOption.map fun u => (u.amountA, u.steps.length)) = some (100000, 1) := by decide +kernel

end WP.C03
