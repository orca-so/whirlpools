import WP.Gen.AnchorSpecs
import WP.Gen.PinoSpecs
import WP.Gen.Routing
/-
  Property C04 — only the designated authority can move a position's funds or change settings.

  The tables `Gen.anchorSpecs`, `Gen.handlerGuards`, `Gen.pinoSpecs`, `Gen.programFns`,
  `Gen.pinoRouting` are REGENERATED from /repo on every run (tools/extract_specs.py).  The tables in
  this file are the hand-written REQUIREMENTS (which stored authority must sign which instruction);
  the theorems say that the regenerated code tables meet every requirement, and what acceptance of an
  instruction therefore implies for any invocation environment.  Deleting or weakening a single
  `Signer`, `address =`, `has_one`, position-token constraint, `verify_position_authority*` call or
  `next_signer()` makes the evaluation of `tables_ok` fail.
-/
namespace WP.C04
open WP WP.Gen

/-! ### requirements -/

/-- (instruction accounts struct, signer slot, stored authority it must equal) -/
def authRows : List (String × String × String) := [
  ("InitializeAdaptiveFeeTier", "fee_authority", "whirlpools_config.fee_authority"),
  ("SetAdaptiveFeeConstants", "fee_authority", "whirlpools_config.fee_authority"),
  ("SetDefaultBaseFeeRate", "fee_authority", "whirlpools_config.fee_authority"),
  ("SetDelegatedFeeAuthority", "fee_authority", "whirlpools_config.fee_authority"),
  ("SetFeeRateByDelegatedFeeAuthority", "delegated_fee_authority", "adaptive_fee_tier.delegated_fee_authority"),
  ("SetInitializePoolAuthority", "fee_authority", "whirlpools_config.fee_authority"),
  ("SetPresetAdaptiveFeeConstants", "fee_authority", "whirlpools_config.fee_authority"),
  ("CollectProtocolFees", "collect_protocol_fees_authority", "whirlpools_config.collect_protocol_fees_authority"),
  ("InitializeFeeTier", "fee_authority", "config.fee_authority"),
  ("InitializeReward", "reward_authority", "whirlpool.reward_authority()"),
  ("SetCollectProtocolFeesAuthority", "collect_protocol_fees_authority", "whirlpools_config.collect_protocol_fees_authority"),
  ("SetDefaultFeeRate", "fee_authority", "whirlpools_config.fee_authority"),
  ("SetDefaultProtocolFeeRate", "fee_authority", "whirlpools_config.fee_authority"),
  ("SetFeeAuthority", "fee_authority", "whirlpools_config.fee_authority"),
  ("SetFeeRate", "fee_authority", "whirlpools_config.fee_authority"),
  ("SetProtocolFeeRate", "fee_authority", "whirlpools_config.fee_authority"),
  ("SetRewardAuthority", "reward_authority", "whirlpool.reward_authority()"),
  ("SetRewardAuthorityBySuperAuthority", "reward_emissions_super_authority", "whirlpools_config.reward_emissions_super_authority"),
  ("SetRewardEmissions", "reward_authority", "whirlpool.reward_authority()"),
  ("SetRewardEmissionsSuperAuthority", "reward_emissions_super_authority", "whirlpools_config.reward_emissions_super_authority"),
  ("CollectProtocolFeesV2", "collect_protocol_fees_authority", "whirlpools_config.collect_protocol_fees_authority"),
  ("DeleteTokenBadge", "token_badge_authority", "whirlpools_config_extension.token_badge_authority"),
  ("InitializeConfigExtension", "fee_authority", "config.fee_authority"),
  ("InitializeRewardV2", "reward_authority", "whirlpool.reward_authority()"),
  ("InitializeTokenBadge", "token_badge_authority", "whirlpools_config_extension.token_badge_authority"),
  ("SetConfigExtensionAuthority", "config_extension_authority", "whirlpools_config_extension.config_extension_authority"),
  ("SetRewardEmissionsV2", "reward_authority", "whirlpool.reward_authority()"),
  ("SetTokenBadgeAttribute", "token_badge_authority", "whirlpools_config_extension.token_badge_authority"),
  ("SetTokenBadgeAuthority", "config_extension_authority", "whirlpools_config_extension.config_extension_authority")]

def adminRows : List (String × String × String) := [
  ("InitializePoolWithAdaptiveFee", "initialize_pool_authority", "adaptive_fee_tier.is_valid_initialize_pool_authority(initialize_pool_authority.key())"),
  ("InitializeConfig", "funder", "is_admin_key(funder.key)"),
  ("SetConfigFeatureFlag", "authority", "is_admin_key(authority.key)")]

def linkRows : List (String × String × String × String) := [
  ("InitializePoolWithAdaptiveFee", "adaptive_fee_tier", "has_one", "whirlpools_config"),
  ("SetAdaptiveFeeConstants", "whirlpool", "has_one", "whirlpools_config"),
  ("SetAdaptiveFeeConstants", "oracle", "has_one", "whirlpool"),
  ("SetDefaultBaseFeeRate", "adaptive_fee_tier", "has_one", "whirlpools_config"),
  ("SetDelegatedFeeAuthority", "adaptive_fee_tier", "has_one", "whirlpools_config"),
  ("SetFeeRateByDelegatedFeeAuthority", "adaptive_fee_tier", "constraint", "adaptive_fee_tier.whirlpools_config == whirlpool.whirlpools_config"),
  ("SetFeeRateByDelegatedFeeAuthority", "adaptive_fee_tier", "constraint", "adaptive_fee_tier.fee_tier_index == whirlpool.fee_tier_index()"),
  ("SetInitializePoolAuthority", "adaptive_fee_tier", "has_one", "whirlpools_config"),
  ("SetPresetAdaptiveFeeConstants", "adaptive_fee_tier", "has_one", "whirlpools_config"),
  ("CollectProtocolFees", "whirlpool", "has_one", "whirlpools_config"),
  ("SetDefaultFeeRate", "fee_tier", "has_one", "whirlpools_config"),
  ("SetFeeRate", "whirlpool", "has_one", "whirlpools_config"),
  ("SetProtocolFeeRate", "whirlpool", "has_one", "whirlpools_config"),
  ("SetRewardAuthorityBySuperAuthority", "whirlpool", "has_one", "whirlpools_config"),
  ("CollectProtocolFeesV2", "whirlpool", "has_one", "whirlpools_config"),
  ("DeleteTokenBadge", "whirlpools_config_extension", "has_one", "whirlpools_config"),
  ("DeleteTokenBadge", "token_badge", "has_one", "whirlpools_config"),
  ("InitializeTokenBadge", "whirlpools_config_extension", "has_one", "whirlpools_config"),
  ("SetConfigExtensionAuthority", "whirlpools_config_extension", "has_one", "whirlpools_config"),
  ("SetTokenBadgeAttribute", "whirlpools_config_extension", "has_one", "whirlpools_config"),
  ("SetTokenBadgeAttribute", "token_badge", "has_one", "whirlpools_config"),
  ("SetTokenBadgeAttribute", "token_badge", "has_one", "token_mint"),
  ("SetTokenBadgeAuthority", "whirlpools_config_extension", "has_one", "whirlpools_config")]

def posAuthRows : List (String × String × String × String × List String × String) := [
  ("CloseBundledPosition", "instructions/close_bundled_position.rs", "position_bundle_authority", "position_bundle_token_account", ["position_bundle_token_account.mint == bundled_position.position_mint", "position_bundle_token_account.mint == position_bundle.position_bundle_mint", "position_bundle_token_account.amount == 1"], "verify_position_bundle_authority( &ctx.accounts.position_bundle_token_account, &ctx.accounts.position_bundle_authority, )"),
  ("ClosePosition", "instructions/close_position.rs", "position_authority", "position_token_account", ["position_token_account.amount == 1", "position_token_account.mint == position.position_mint"], "verify_position_authority( &ctx.accounts.position_token_account, &ctx.accounts.position_authority, )"),
  ("ClosePositionWithTokenExtensions", "instructions/close_position_with_token_extensions.rs", "position_authority", "position_token_account", ["position_token_account.amount == 1", "position_token_account.mint == position.position_mint"], "verify_position_authority_interface( &ctx.accounts.position_token_account, &ctx.accounts.position_authority, )"),
  ("CollectFees", "instructions/collect_fees.rs", "position_authority", "position_token_account", ["position_token_account.mint == position.position_mint", "position_token_account.amount == 1"], "verify_position_authority_interface( &ctx.accounts.position_token_account, &ctx.accounts.position_authority, )"),
  ("CollectReward", "instructions/collect_reward.rs", "position_authority", "position_token_account", ["position_token_account.mint == position.position_mint", "position_token_account.amount == 1"], "verify_position_authority_interface( &ctx.accounts.position_token_account, &ctx.accounts.position_authority, )"),
  ("DeletePositionBundle", "instructions/delete_position_bundle.rs", "position_bundle_owner", "position_bundle_token_account", ["position_bundle_token_account.mint == position_bundle.position_bundle_mint", "position_bundle_token_account.owner == position_bundle_owner.key()", "position_bundle_token_account.amount == 1"], ""),
  ("ModifyLiquidity", "instructions/increase_liquidity.rs", "position_authority", "position_token_account", ["position_token_account.mint == position.position_mint", "position_token_account.amount == 1"], "verify_position_authority_interface( &ctx.accounts.position_token_account, &ctx.accounts.position_authority, )"),
  ("LockPosition", "instructions/lock_position.rs", "position_authority", "position_token_account", ["position_token_account.amount == 1", "position_token_account.mint == position.position_mint"], "verify_position_authority_interface( &ctx.accounts.position_token_account, &ctx.accounts.position_authority, )"),
  ("OpenBundledPosition", "instructions/open_bundled_position.rs", "position_bundle_authority", "position_bundle_token_account", ["position_bundle_token_account.mint == position_bundle.position_bundle_mint", "position_bundle_token_account.amount == 1"], "verify_position_bundle_authority( &ctx.accounts.position_bundle_token_account, &ctx.accounts.position_bundle_authority, )"),
  ("ResetPositionRange", "instructions/reset_position_range.rs", "position_authority", "position_token_account", ["position_token_account.amount == 1", "position_token_account.mint == position.position_mint"], "verify_position_authority_interface( &ctx.accounts.position_token_account, &ctx.accounts.position_authority, )"),
  ("TransferLockedPosition", "instructions/transfer_locked_position.rs", "position_authority", "position_token_account", ["position_token_account.amount == 1", "position_token_account.mint == position.position_mint"], "validate_owner( &ctx.accounts.position_token_account.owner, &ctx.accounts.position_authority.to_account_info(), )"),
  ("CollectFeesV2", "instructions/v2/collect_fees.rs", "position_authority", "position_token_account", ["position_token_account.mint == position.position_mint", "position_token_account.amount == 1"], "verify_position_authority_interface( &ctx.accounts.position_token_account, &ctx.accounts.position_authority, )"),
  ("CollectRewardV2", "instructions/v2/collect_reward.rs", "position_authority", "position_token_account", ["position_token_account.mint == position.position_mint", "position_token_account.amount == 1"], "verify_position_authority_interface( &ctx.accounts.position_token_account, &ctx.accounts.position_authority, )"),
  ("ModifyLiquidityV2", "instructions/v2/increase_liquidity.rs", "position_authority", "position_token_account", ["position_token_account.mint == position.position_mint", "position_token_account.amount == 1"], "verify_position_authority_interface( &ctx.accounts.position_token_account, &ctx.accounts.position_authority, )")]

/-- Pinocchio-dispatched instructions: (handler file, authority label, guard call of the core,
    constraints of the prologue) -/
def pinoRows : List (String × String × String × List String) :=
  let cons := ["position_token_account.mint() == position.position_mint()", "position_token_account.amount() == 1"]
  let g := "pino_verify_position_authority(&position_token_account, position_authority_info)"
  [ ("pinocchio/instructions/increase_liquidity.rs", "position_authority_info", g, cons),
    ("pinocchio/instructions/decrease_liquidity.rs", "position_authority_info", g, cons),
    ("pinocchio/instructions/increase_liquidity_v2.rs", "position_authority_info", g, cons),
    ("pinocchio/instructions/decrease_liquidity_v2.rs", "position_authority_info", g, cons),
    ("pinocchio/instructions/increase_liquidity_by_token_amounts_v2.rs", "position_authority_info", g, cons),
    ("pinocchio/instructions/reposition_liquidity_v2.rs", "position_authority_info", g, cons) ]

/-- instructions that need no stored authority: permissionless initialisers (the funder pays),
    swaps (the token program checks the trader's own authority), fee/reward updates -/
def permissionless : List String := ["IdlInclude", "InitializeDynamicTickArray", "InitializePool", "InitializePoolV2", "InitializePositionBundle", "InitializePositionBundleWithMetadata", "InitializeTickArray", "MigrateRepurposeRewardAuthoritySpace", "OpenPosition", "OpenPositionWithMetadata", "OpenPositionWithTokenExtensions", "Swap", "SwapV2", "TwoHopSwap", "TwoHopSwapV2", "UpdateFeesAndRewards"]

/-! ### decidable checks of the regenerated tables against the requirements -/

def authOk (r : String × String × String) : Bool :=
  hasKind anchorSpecs r.1 r.2.1 "Signer" && hasAttr anchorSpecs r.1 r.2.1 "address" r.2.2

def adminOk (r : String × String × String) : Bool :=
  hasKind anchorSpecs r.1 r.2.1 "Signer" && hasAttr anchorSpecs r.1 r.2.1 "constraint" r.2.2

def linkOk (r : String × String × String × String) : Bool := hasAttr anchorSpecs r.1 r.2.1 r.2.2.1 r.2.2.2

/-- the guard call is present in the handler and precedes every fund-moving effect -/
def guardBeforeEffects (file guard : String) : Bool :=
  match handlerGuards.find? (·.1 == file) with
  | none => false
  | some (_, gs) =>
    let upToGuard := gs.takeWhile fun g => !(g.1 == "call" && g.2 == guard)
    decide (upToGuard.length < gs.length) && upToGuard.all fun g => g.1 != "effect"

def posAuthOk (r : String × String × String × String × List String × String) : Bool :=
  hasKind anchorSpecs r.1 r.2.2.1 "Signer" &&
  r.2.2.2.2.1.all (fun c => hasAttr anchorSpecs r.1 r.2.2.2.1 "constraint" c) &&
  -- an empty guard means the constraints themselves pin the owner (`token_account.owner == signer.key()`)
  (r.2.2.2.2.2 == "" && r.2.2.2.2.1.any (fun c => c == r.2.2.2.1 ++ ".owner == " ++ r.2.2.1 ++ ".key()")
   || guardBeforeEffects r.2.1 r.2.2.2.2.2)

def pinoOk (r : String × String × List String) (file : String) : Bool :=
  match pinoSpecs.find? (·.file == file) with
  | none => false
  | some s =>
    s.labels.any (fun l => l.1 == r.1 && (l.2 == "next_signer" || l.2 == "next_signer_mut")) &&
    s.core.head? == some r.2.1 &&
    r.2.2.all (fun c => s.checks.any fun k => k.1 == "verify_constraint" && k.2.1 == c)

/-- every Pinocchio-routed instruction has a requirement row and every row is routed -/
def routingOk : Bool :=
  pinoRouting.all (fun r => pinoRows.any fun p => p.1 == "pinocchio/instructions/" ++ r.2 ++ ".rs") &&
  decide (pinoRouting.length = pinoRows.length)

/-- every #[program] entry point is classified: it has an authority requirement or is explicitly permissionless -/
def completeOk : Bool :=
  programFns.all fun f =>
    authRows.any (·.1 == f.2.1) || adminRows.any (·.1 == f.2.1) || posAuthRows.any (·.1 == f.2.1) || permissionless.contains f.2.1
      -- entry points whose body is `unreachable!()` because the discriminator is routed to Pinocchio first
      || (f.2.2 == "" && pinoRouting.any fun r => pinoRows.any fun p => p.1 == "pinocchio/instructions/" ++ r.2 ++ ".rs")

/-- All tables in one kernel evaluation: they name the same structs, slots and handler files, and comparing
    string literals is the whole cost. -/
theorem tables_ok :
    authRows.all authOk = true ∧ adminRows.all adminOk = true ∧ linkRows.all linkOk = true ∧
    posAuthRows.all posAuthOk = true ∧ pinoRows.all (fun r => pinoOk r.2 r.1) = true ∧ routingOk = true ∧
    completeOk = true := by decide +kernel

/-- C04(T1): every setting-changing / protocol-fee instruction demands a SIGNER whose key is the
    authority stored on-chain for that setting. -/
theorem auth_rows_met : authRows.all authOk = true := let ⟨h, _⟩ := tables_ok; h
/-- C04(T2): the admin-gated instructions check the signer against the admin key set. -/
theorem admin_rows_met : adminRows.all adminOk = true := let ⟨_, h, _⟩ := tables_ok; h
/-- C04(T3): the account holding the stored authority is tied to the account being changed. -/
theorem link_rows_met : linkRows.all linkOk = true := let ⟨_, _, h, _⟩ := tables_ok; h
/-- C04(T4): every position instruction served by Anchor demands a signer, a position-token account of
    that position holding exactly one token, and calls the authority check before any transfer. -/
theorem pos_auth_rows_met : posAuthRows.all posAuthOk = true := let ⟨_, _, _, h, _⟩ := tables_ok; h
/-- C04(T5): the same for the Pinocchio-served instructions (`next_signer`, prologue constraints,
    `pino_verify_position_authority` as the FIRST step of the core). -/
theorem pino_rows_met : pinoRows.all (fun r => pinoOk r.2 r.1) = true := let ⟨_, _, _, _, h, _⟩ := tables_ok; h
theorem routing_complete : routingOk = true := let ⟨_, _, _, _, _, h, _⟩ := tables_ok; h
/-- C04(T6): no entry point is unclassified. -/
theorem classification_complete : completeOk = true := let ⟨_, _, _, _, _, _, h⟩ := tables_ok; h

/-! ### what acceptance implies -/

theorem authority_enforced (r : String × String × String) (hr : authOk r = true) (env : Env) :
    ∃ s, findSpec anchorSpecs r.1 = some s ∧
      (accepts s env → env.isSigner r.2.1 = true ∧ env.key r.2.1 = env.evalKey r.2.2) := by
  rw [authOk, Bool.and_eq_true] at hr
  obtain ⟨s, hs, hsig⟩ := signer_enforced _ _ _ hr.1 env
  obtain ⟨s', e, hs', hkey⟩ := hasAttr_enforced _ _ _ _ _ hr.2 env
  cases hs.symm.trans hs'
  exact ⟨s, hs, fun hacc => ⟨hsig hacc, (holdsAttr_address env _ _ e).mp (hkey hacc)⟩⟩

theorem set_fee_rate_auth (env : Env) :
    ∃ s, findSpec anchorSpecs "SetFeeRate" = some s ∧
      (accepts s env → env.isSigner "fee_authority" = true ∧
        env.key "fee_authority" = env.evalKey "whirlpools_config.fee_authority") :=
  -- the row is `authRows[14]`; naming its place avoids comparing it with the rows before it
  authority_enforced ("SetFeeRate", "fee_authority", "whirlpools_config.fee_authority")
    (List.all_eq_true.mp auth_rows_met _ (List.getElem_mem (l := authRows) (n := 14) (by decide))) env

theorem collect_protocol_fees_auth (env : Env) :
    ∃ s, findSpec anchorSpecs "CollectProtocolFeesV2" = some s ∧
      (accepts s env → env.isSigner "collect_protocol_fees_authority" = true ∧
        env.key "collect_protocol_fees_authority" = env.evalKey "whirlpools_config.collect_protocol_fees_authority") :=
  authority_enforced ("CollectProtocolFeesV2", "collect_protocol_fees_authority", "whirlpools_config.collect_protocol_fees_authority")
    (List.all_eq_true.mp auth_rows_met _ (List.getElem_mem (l := authRows) (n := 20) (by decide))) env

/-! ### the position-authority check itself -/

/-- C04(T7): the check passes only for a SIGNING holder of the position token or its one-token delegate. -/
theorem verify_position_authority_spec (owner : Nat) (delegate : Option Nat) (amt key : Nat) (signer : Bool)
    (h : verifyPositionAuthority owner delegate amt key signer = true) :
    signer = true ∧ (key = owner ∨ (delegate = some key ∧ amt = 1)) := by
  unfold verifyPositionAuthority at h
  cases delegate with
  | none => simp at h; exact ⟨h.2, Or.inl h.1.symm⟩
  | some d =>
    simp only at h
    by_cases e : key = d
    · simp [e] at h; exact ⟨h.1, Or.inr ⟨by rw [e], h.2⟩⟩
    · simp [e] at h; exact ⟨h.2, Or.inl h.1.symm⟩

-- Non-vacuity: an owner that signs passes; the right key without a signature, a wrong key, and a
-- delegate of 0 or 2 tokens do not
example : verifyPositionAuthority 7 none 0 7 true = true ∧ verifyPositionAuthority 7 none 0 7 false = false ∧
    verifyPositionAuthority 7 (some 9) 1 9 true = true ∧ verifyPositionAuthority 7 (some 9) 2 9 true = false ∧
    verifyPositionAuthority 7 (some 9) 0 9 true = false ∧ verifyPositionAuthority 7 (some 9) 1 8 true = false := by decide

end WP.C04
