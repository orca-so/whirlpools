import WP.Props.HistStep
import Mathlib.Tactic.Linarith
/-
  Property C05 — tradable liquidity at any price equals the sum of positions covering it.

  Invariant over the history-level state machine (WP/Model/Hist.lean):
    pool.liquidity            = Σ { p.liquidity | p.lower ≤ tick_current_index < p.upper }
    tick i: liquidity_net     = Σ_{p.lower = i} p.liquidity − Σ_{p.upper = i} p.liquidity
            liquidity_gross   = Σ_{p.lower = i ∨ p.upper = i} p.liquidity
            initialized       ↔ liquidity_gross > 0
  Proved here: preserved by every operation other than `swap` for all histories (unbounded number
  of positions, any interleaving), and by one tick crossing of the swap loop (`cross_preserves`).
  The lift of `cross_preserves` through the whole swap loop needs the specification of the
  next-initialized-tick search (C10) and the tick/price consistency of C09: it is proved (static
  and adaptive fee) in WP/Props/SwapPath.lean (`swap_path`) and lifted to every reachable state in
  WP/Props/Reach.lean (`reach`), under the hypothesis that the array sequence is aligned and
  consecutive (what the loader builds).  The unconditional form `SwapPreserves` below (ANY array
  list) is stronger than what holds — skipping an array skips its initialized ticks — and is only
  the hypothesis of `inv_history_partial`.
-/
namespace WP.C05
open WP

def sumBy (f : PositionD → Int) : List (Nat × PositionD) → Int
  | [] => 0
  | (_, p) :: r => f p + sumBy f r

def inRangeLiq (t : Int) (p : PositionD) : Int := if p.lower ≤ t ∧ t < p.upper then (p.liq : Int) else 0
def netContrib (i : Int) (p : PositionD) : Int :=
  (if p.lower = i then (p.liq : Int) else 0) - (if p.upper = i then (p.liq : Int) else 0)
def grossContrib (i : Int) (p : PositionD) : Int :=
  (if p.lower = i then (p.liq : Int) else 0) + (if p.upper = i then (p.liq : Int) else 0)

structure Inv (s : HistState) : Prop where
  liq : (s.pool.liq : Int) = sumBy (inRangeLiq s.pool.tick) s.positions
  net : ∀ i, (s.ticks.get i).net = sumBy (netContrib i) s.positions
  gross : ∀ i, ((s.ticks.get i).gross : Int) = sumBy (grossContrib i) s.positions
  init : ∀ i, (s.ticks.get i).initialized = decide ((s.ticks.get i).gross > 0)
  ordered : ∀ id p, posGet s.positions id = some p → p.lower < p.upper

/-! ### list lemmas -/

theorem sumBy_replace (f : PositionD → Int) : ∀ (l : List (Nat × PositionD)) (id : Nat) (old new : PositionD),
    posGet l id = some old → sumBy f (posReplace l id new) = sumBy f l - f old + f new := by
  intro l
  induction l with
  | nil => intro id old new h; cases h
  | cons hd tl ih =>
    intro id old new h
    obtain ⟨k, w⟩ := hd
    unfold posGet at h
    unfold posReplace
    by_cases e : k = id
    · rw [if_pos e] at h ⊢
      cases h
      simp only [sumBy]; omega
    · rw [if_neg e] at h ⊢
      simp only [sumBy]
      rw [ih id old new h]; omega

theorem posGet_replace (l : List (Nat × PositionD)) (id : Nat) (new : PositionD) (j : Nat) (old : PositionD)
    (h : posGet l id = some old) :
    posGet (posReplace l id new) j = if j = id then some new else posGet l j := by
  induction l with
  | nil => cases h
  | cons hd tl ih =>
    obtain ⟨k, w⟩ := hd
    unfold posGet at h
    unfold posReplace
    by_cases e : k = id
    · subst e
      rw [if_pos rfl]
      simp only [posGet, eq_comm (a := j)]
      split <;> rfl
    · rw [if_neg e] at h
      rw [if_neg e]
      unfold posGet
      rw [ih h]
      by_cases e3 : k = j
      · rw [if_pos e3, if_neg (fun x => e (e3.trans x)), if_pos e3]
      · rw [if_neg e3, if_neg e3]

theorem ord_replace_same (l : List (Nat × PositionD)) (id : Nat) (old new : PositionD) (h : posGet l id = some old)
    (b : new.lower = old.lower) (c : new.upper = old.upper)
    (hord : ∀ id p, posGet l id = some p → p.lower < p.upper) :
    ∀ j p, posGet (posReplace l id new) j = some p → p.lower < p.upper := by
  intro j p hp
  rw [posGet_replace _ _ _ _ _ h] at hp
  split at hp
  · cases hp; rw [b, c]; exact hord id old h
  · exact hord j p hp

theorem sumBy_insert (f : PositionD → Int) : ∀ (l : List (Nat × PositionD)) (id : Nat) (v : PositionD),
    posGet l id = none → sumBy f (posSet l id v) = sumBy f l + f v := by
  intro l
  induction l with
  | nil => intro id v _; simp only [posSet, sumBy]; omega
  | cons hd tl ih =>
    intro id v h
    obtain ⟨k, w⟩ := hd
    unfold posGet at h
    unfold posSet
    split at h
    · cases h
    · rename_i e
      rw [if_neg e]
      split
      · simp only [sumBy]; omega
      · simp only [sumBy]
        rw [ih id v h]; omega

theorem posGet_insert (l : List (Nat × PositionD)) (id : Nat) (v : PositionD) (j : Nat)
    (h : posGet l id = none) :
    posGet (posSet l id v) j = if j = id then some v else posGet l j := by
  induction l with
  | nil => simp only [posSet, posGet, eq_comm (a := j)]
  | cons hd tl ih =>
    obtain ⟨k, w⟩ := hd
    unfold posGet at h
    unfold posSet
    split at h
    · cases h
    · rename_i e
      rw [if_neg e]
      split
      · simp only [posGet, eq_comm (a := j)]
      · unfold posGet
        rw [ih h]
        by_cases e3 : k = j
        · rw [if_pos e3, if_neg (fun x => e (e3.trans x)), if_pos e3]
        · rw [if_neg e3, if_neg e3]

theorem tick_get_set (m : TickMap) (i j : Int) (v : TickData) :
    (m.set i v).get j = if j = i then v else m.get j := by
  induction m with
  | nil => simp only [TickMap.set, TickMap.get, eq_comm (a := j)]
  | cons hd tl ih =>
    obtain ⟨k, w⟩ := hd
    unfold TickMap.set
    by_cases e : k = i
    · subst e
      rw [if_pos rfl]
      simp only [TickMap.get, eq_comm (a := j)]
      split <;> rfl
    · rw [if_neg e]
      split
      · simp only [TickMap.get, eq_comm (a := j)]
      · unfold TickMap.get
        rw [ih]
        by_cases e3 : k = j
        · rw [if_pos e3, if_neg (fun x => e (e3.trans x)), if_pos e3]
        · rw [if_neg e3, if_neg e3]

theorem tick_set_all (P : TickData → Prop) (m : TickMap) (i : Int) (v : TickData) (hm : ∀ t, P (m.get t)) (hv : P v) :
    ∀ t, P ((m.set i v).get t) := by
  intro t
  rw [tick_get_set]
  split
  · exact hv
  · exact hm t

theorem gross_nonneg (i : Int) (p : PositionD) : 0 ≤ grossContrib i p := by
  unfold grossContrib; split <;> split <;> omega

theorem net_abs_le_gross (i : Int) (p : PositionD) : -(grossContrib i p) ≤ netContrib i p ∧ netContrib i p ≤ grossContrib i p := by
  unfold grossContrib netContrib; split <;> split <;> omega

theorem sumBy_gross_nonneg (i : Int) : ∀ l, 0 ≤ sumBy (grossContrib i) l := by
  intro l; induction l with
  | nil => exact Int.le_refl 0
  | cons hd tl ih => obtain ⟨k, w⟩ := hd; simp only [sumBy]; have := gross_nonneg i w; omega

theorem sumBy_net_bound (i : Int) : ∀ l, -(sumBy (grossContrib i) l) ≤ sumBy (netContrib i) l ∧ sumBy (netContrib i) l ≤ sumBy (grossContrib i) l := by
  intro l; induction l with
  | nil => simp only [sumBy]; omega
  | cons hd tl ih => obtain ⟨k, w⟩ := hd; simp only [sumBy]; have := net_abs_le_gross i w; omega

theorem net_zero_of_gross_zero (i : Int) (l : List (Nat × PositionD)) (h : sumBy (grossContrib i) l = 0) :
    sumBy (netContrib i) l = 0 := by
  have := sumBy_net_bound i l; omega

/-! ### the tick update of modify-liquidity -/

theorem tickModify_spec {t t' : TickData} {tickIndex cur : Int} {fgA fgB : Nat} {rw : List RewardInfo} {delta : Int}
    {isUpper : Bool} (hd : delta ≠ 0)
    (h : nextTickModifyLiquidityUpdate t tickIndex cur fgA fgB rw delta isUpper = .ok t') :
    (t'.gross : Int) = t.gross + delta ∧ t'.initialized = decide (t'.gross > 0) ∧
    (t'.gross > 0 → t'.net = (if isUpper then t.net - delta else t.net + delta)) ∧ (t'.gross = 0 → t'.net = 0) := by
  rcases tickModify_cases h with ⟨h0, _⟩ | ⟨_, gross, hg, hc⟩
  · exact absurd h0 hd
  · have hgross := (addLiquidityDelta_ok hg).1
    rcases hc with ⟨hz, rfl⟩ | ⟨hz, net, hnet, rfl⟩
    · subst hz
      exact ⟨hgross, rfl, fun h0 => absurd h0 (Nat.lt_irrefl 0), fun _ => rfl⟩
    · have hpos : gross > 0 := Nat.pos_of_ne_zero hz
      exact ⟨hgross, (decide_eq_true hpos).symm, fun _ => (checkedI128_ok hnet).1, fun h0 => absurd h0 hz⟩

/-- when the new gross sum `G'` is 0 the stored net is reset to 0; that is the net sum `N'`, which `G'` bounds -/
theorem tickModify_sums {t t' : TickData} {tickIndex cur : Int} {fgA fgB : Nat} {rw : List RewardInfo} {delta : Int}
    {isUpper : Bool} (hd : delta ≠ 0)
    (h : nextTickModifyLiquidityUpdate t tickIndex cur fgA fgB rw delta isUpper = .ok t') {G N G' N' : Int}
    (hg : (t.gross : Int) = G) (hn : t.net = N) (hG' : G' = G + delta)
    (hN' : N' = if isUpper then N - delta else N + delta) (hb : -G' ≤ N' ∧ N' ≤ G') :
    t'.net = N' ∧ (t'.gross : Int) = G' ∧ t'.initialized = decide (t'.gross > 0) := by
  obtain ⟨a, b, c, d⟩ := tickModify_spec hd h
  refine ⟨?_, by omega, b⟩
  by_cases gz : t'.gross = 0
  · rw [d gz]; omega
  · rw [c (Nat.pos_of_ne_zero gz), hN', hn]

/-! ### C05 for liquidity changes -/

theorem contrib_shift {pos pu : PositionD} {delta : Int} (hl : (pu.liq : Int) = pos.liq + delta)
    (hlo : pu.lower = pos.lower) (hup : pu.upper = pos.upper) :
    (∀ i, netContrib i pu = netContrib i pos + (if pos.lower = i then delta else 0) - (if pos.upper = i then delta else 0)) ∧
    (∀ i, grossContrib i pu = grossContrib i pos + (if pos.lower = i then delta else 0) + (if pos.upper = i then delta else 0)) ∧
    (∀ t, inRangeLiq t pu = inRangeLiq t pos + (if pos.lower ≤ t ∧ t < pos.upper then delta else 0)) := by
  have sh : ∀ (c : Prop) [Decidable c], (if c then (pu.liq : Int) else 0) = (if c then (pos.liq : Int) else 0) + (if c then delta else 0) := by
    intro c _
    split <;> omega
  refine ⟨fun i => ?_, fun i => ?_, fun t => ?_⟩
  · unfold netContrib; rw [hlo, hup, sh, sh]; omega
  · unfold grossContrib; rw [hlo, hup, sh, sh]; omega
  · unfold inRangeLiq; rw [hlo, hup, sh]

theorem inv_modify (s s' : HistState) (id amount : Nat) (positive : Bool) (outs : List Nat)
    (inv : Inv s) (h : histStep s (.modify id amount positive) = .ok (s', outs)) : Inv s' := by
  obtain ⟨hamt, _, pos, u, da, db, hpos, hu, _, _, rfl, _⟩ := histStep_modify_ok h
  have hdelta : (if positive = true then (amount : Int) else -(amount : Int)) ≠ 0 := by
    split <;> omega
  generalize (if positive = true then (amount : Int) else -(amount : Int)) = delta at hu hdelta
  obtain ⟨_, _, hpl, htl, htu, hpu⟩ := calcModify_ok hu
  obtain ⟨liq, hl, hpu⟩ := nextPositionUpdate_ok hpu
  have hord := inv.ordered id pos hpos
  obtain ⟨cN, cG, cR⟩ := contrib_shift (pu := u.position) (delta := delta)
    (by rw [hpu]; exact (addLiquidityDelta_ok hl).1) (by rw [hpu]) (by rw [hpu])
  have sumF : ∀ f : PositionD → Int, sumBy f (posReplace s.positions id u.position) = sumBy f s.positions - f pos + f u.position :=
    fun f => sumBy_replace f _ _ _ _ hpos
  have hlu : ¬ pos.lower = pos.upper := Int.ne_of_lt hord
  have hul : ¬ pos.upper = pos.lower := fun e => hlu e.symm
  -- every tick: the two bounds by `tickModify_sums`, the others are untouched and so are their sums
  have tk : ∀ i, let t' := ((s.ticks.set pos.lower u.tickLower).set pos.upper u.tickUpper).get i
      t'.net = sumBy (netContrib i) (posReplace s.positions id u.position) ∧
      (t'.gross : Int) = sumBy (grossContrib i) (posReplace s.positions id u.position) ∧
      t'.initialized = decide (t'.gross > 0) := by
    intro i
    have hb := sumBy_net_bound i (posReplace s.positions id u.position)
    rw [sumF, sumF, cN, cG] at hb
    simp only []
    rw [tick_get_set, tick_get_set, sumF, sumF, cN, cG]
    by_cases c1 : i = pos.upper
    · subst c1
      rw [if_pos rfl]
      rw [if_neg hlu, if_pos rfl] at hb ⊢
      exact tickModify_sums hdelta htu (inv.gross _) (inv.net _) (by omega) (by rw [if_pos rfl]; omega) hb
    · rw [if_neg c1]
      by_cases c2 : i = pos.lower
      · subst c2
        rw [if_pos rfl]
        rw [if_pos rfl, if_neg hul] at hb ⊢
        exact tickModify_sums hdelta htl (inv.gross _) (inv.net _) (by omega) (by rw [if_neg Bool.false_ne_true]; omega) hb
      · rw [if_neg c2, if_neg (fun x => c2 x.symm), if_neg (fun x => c1 x.symm)]
        exact ⟨by rw [inv.net i]; omega, by rw [inv.gross i]; omega, inv.init i⟩
  refine ⟨?_, fun i => (tk i).1, fun i => (tk i).2.1, fun i => (tk i).2.2, ?_⟩
  · show (u.poolLiq : Int) = sumBy (inRangeLiq s.pool.tick) (posReplace s.positions id u.position)
    rw [sumF, cR, (nextWhirlpoolLiquidity_ok hpl).1, inv.liq]; omega
  · exact ord_replace_same _ _ _ _ hpos (by rw [hpu]) (by rw [hpu]) inv.ordered

/-! ### crossing a tick: the algebra behind `calculate_update` of the swap loop -/

theorem sumBy_sub (f g : PositionD → Int) : ∀ l, sumBy (fun p => f p - g p) l = sumBy f l - sumBy g l := by
  intro l; induction l with
  | nil => simp only [sumBy]; omega
  | cons hd tl ih => obtain ⟨k, w⟩ := hd; simp only [sumBy]; rw [ih]; omega

/-- moving the current tick index one step left across tick `T` changes the covering sum by −net(T):
    positions with lower = T leave the range, positions with upper = T enter it -/
theorem range_shift (T : Int) (l : List (Nat × PositionD)) (hord : ∀ kp ∈ l, kp.2.lower < kp.2.upper) :
    sumBy (inRangeLiq (T - 1)) l = sumBy (inRangeLiq T) l - sumBy (netContrib T) l := by
  induction l with
  | nil => simp only [sumBy]; omega
  | cons hd tl ih =>
    obtain ⟨k, w⟩ := hd
    simp only [sumBy]
    rw [ih (fun kp hk => hord kp (List.mem_cons_of_mem _ hk))]
    have ho : w.lower < w.upper := hord (k, w) List.mem_cons_self
    have : inRangeLiq (T - 1) w = inRangeLiq T w - netContrib T w := by
      unfold inRangeLiq netContrib
      by_cases c1 : w.lower = T
      · -- the range starts at T: it covers T and not T − 1
        rw [if_neg (by omega), if_pos (by omega), if_pos c1, if_neg (by omega)]; omega
      · by_cases c2 : w.upper = T
        · -- the range ends at T: it covers T − 1 and not T
          rw [if_pos (by omega), if_neg (by omega), if_neg c1, if_pos c2]; omega
        · rw [if_neg c1, if_neg c2]
          by_cases c3 : w.lower ≤ T ∧ T < w.upper
          · rw [if_pos c3, if_pos (by omega)]; omega
          · rw [if_neg c3, if_neg (by omega)]; omega
    omega

/-- the crossing update of the swap loop keeps `liquidity = Σ covering positions`:
    a→b: tick T−1, liquidity − net(T);   b→a: tick T, liquidity + net(T) (coming from T−1) -/
theorem cross_preserves (T : Int) (liq : Int) (l : List (Nat × PositionD)) (hord : ∀ kp ∈ l, kp.2.lower < kp.2.upper) :
    (liq = sumBy (inRangeLiq T) l → liq - sumBy (netContrib T) l = sumBy (inRangeLiq (T - 1)) l) ∧
    (liq = sumBy (inRangeLiq (T - 1)) l → liq + sumBy (netContrib T) l = sumBy (inRangeLiq T) l) := by
  have := range_shift T l hord
  constructor <;> intro h <;> omega

theorem range_const (l : List (Nat × PositionD)) (hord : ∀ kp ∈ l, kp.2.lower < kp.2.upper) :
    ∀ (n : Nat) (a : Int), (∀ i, a < i → i ≤ a + n → sumBy (grossContrib i) l = 0) →
      sumBy (inRangeLiq a) l = sumBy (inRangeLiq (a + n)) l := by
  intro n
  induction n with
  | zero => intro a _; rw [Nat.cast_zero, add_zero]
  | succ n ih =>
    intro a h
    have h1 := ih a (fun i h1 h2 => h i h1 (by push_cast; omega))
    have h2 := range_shift (a + ((n + 1 : Nat) : Int)) l hord
    have h3 := net_zero_of_gross_zero _ _ (h (a + ((n + 1 : Nat) : Int)) (by push_cast; omega) (by omega))
    have e : a + ((n + 1 : Nat) : Int) - 1 = a + (n : Int) := by push_cast; omega
    rw [e] at h2
    omega

/-! ### the operations that move no liquidity -/

/-- the invariant reads the positions only through sums of functions of liquidity and range that
    vanish on an empty position -/
theorem inv_of_sums (s st : HistState) (inv : Inv s)
    (e1 : st.pool.liq = s.pool.liq) (e2 : st.pool.tick = s.pool.tick) (e3 : st.ticks = s.ticks)
    (hsum : ∀ f : PositionD → Int, (∀ p q : PositionD, p.liq = q.liq → p.lower = q.lower → p.upper = q.upper → f p = f q) →
      (∀ p : PositionD, p.liq = 0 → f p = 0) → sumBy f st.positions = sumBy f s.positions)
    (hord : ∀ id p, posGet st.positions id = some p → p.lower < p.upper) : Inv st := by
  refine ⟨?_, ?_, ?_, ?_, hord⟩
  · rw [e1, e2, hsum _ (by intro p q a b c; unfold inRangeLiq; rw [a, b, c])
      (by intro p a; unfold inRangeLiq; rw [a]; exact ite_self _)]
    exact inv.liq
  · intro i
    rw [e3, hsum _ (by intro p q a b c; unfold netContrib; rw [a, b, c])
      (by intro p a; unfold netContrib; rw [a]; split <;> split <;> rfl)]
    exact inv.net i
  · intro i
    rw [e3, hsum _ (by intro p q a b c; unfold grossContrib; rw [a, b, c])
      (by intro p a; unfold grossContrib; rw [a]; split <;> split <;> rfl)]
    exact inv.gross i
  · intro i; rw [e3]; exact inv.init i

theorem inv_of_same (s st : HistState) (inv : Inv s)
    (e1 : st.pool.liq = s.pool.liq) (e2 : st.pool.tick = s.pool.tick) (e3 : st.ticks = s.ticks)
    (hsum : ∀ f : PositionD → Int, (∀ p q : PositionD, p.liq = q.liq → p.lower = q.lower → p.upper = q.upper → f p = f q) →
      sumBy f st.positions = sumBy f s.positions)
    (hord : ∀ id p, posGet st.positions id = some p → p.lower < p.upper) : Inv st :=
  inv_of_sums s st inv e1 e2 e3 (fun f hf _ => hsum f hf) hord

theorem inv_init (p : PoolD) (h : p.liq = 0) (now : Nat) : Inv { pool := p, now := now } :=
  ⟨by show (p.liq : Int) = 0; rw [h]; rfl, fun _ => rfl, fun _ => rfl, fun _ => rfl, fun _ _ hq => by cases hq⟩

theorem inv_quiet (s s' : HistState) (inv : Inv s) (q : Quiet s s') : Inv s' := by
  have e1 : s'.pool.liq = s.pool.liq := by rw [q.pool]
  have e2 : s'.pool.tick = s.pool.tick := by rw [q.pool]
  rcases q.positions with hp | ⟨id, old, new, hpos, hp, a, b, c⟩ | ⟨id, new, hn, hp, a, _, _, hlt⟩
  · exact inv_of_sums s s' inv e1 e2 q.ticks (fun f _ _ => by rw [hp]) (by rw [hp]; exact inv.ordered)
  · refine inv_of_sums s s' inv e1 e2 q.ticks (fun f hf _ => ?_) ?_
    · rw [hp, sumBy_replace f _ _ _ _ hpos, hf new old a b c]; omega
    · rw [hp]; exact ord_replace_same _ _ _ _ hpos b c inv.ordered
  · refine inv_of_sums s s' inv e1 e2 q.ticks (fun f _ hz => ?_) ?_
    · rw [hp, sumBy_insert f _ _ _ hn, hz new a]; omega
    · intro j p hj
      rw [hp, posGet_insert _ _ _ _ hn] at hj
      split at hj
      · cases hj; exact hlt
      · exact inv.ordered j p hj

/-- a swap over ANY array list preserves the invariant: stronger than what holds (see the header) -/
def SwapPreserves : Prop :=
  ∀ (s s' : HistState) (amount limit : Nat) (isInput aToB : Bool) (arrays : List Int) (outs : List Nat),
    Inv s → histStep s (.swap amount limit isInput aToB arrays) = .ok (s', outs) → Inv s'

/-- C05 (partial: modulo `SwapPreserves`): the invariant holds after EVERY finite history of
    operations, over any number of positions and any interleaving. -/
theorem inv_history_partial (hswap : SwapPreserves) : ∀ (ops : List HistOp) (s s' : HistState),
    Inv s → (∀ op ∈ ops, ∀ i e t, op ≠ .reward i e t) →
    ops.foldlM (fun st op => (histStep st op).map (·.1)) s = .ok s' → Inv s' := by
  intro ops
  induction ops with
  | nil => intro s s' inv _ h; cases h; exact inv
  | cons op rest ih =>
    intro s s' inv hnr h
    simp only [List.foldlM, bind, Except.bind] at h
    cases hs : histStep s op with
    | error e => rw [hs] at h; cases h
    | ok r =>
      obtain ⟨s1, outs⟩ := r
      simp only [hs, Except.map] at h
      have inv1 : Inv s1 := by
        rcases histStep_cases hs with ⟨a, l, i, d, arr, rfl⟩ | ⟨id, a, p, rfl⟩ | q
        · exact hswap s s1 a l i d arr outs inv hs
        · exact inv_modify s s1 id a p outs inv hs
        · exact inv_quiet s s1 inv q
      exact ih s1 s' inv1 (fun op' h' => hnr op' (List.mem_cons_of_mem _ h')) h

-- Non-vacuity: a concrete two-position history reaches a state with tradable liquidity 1500
example : ((([HistOp.openPos 0 (-128) 128, .openPos 1 0 64, .modify 0 1000 true, .modify 1 500 true] : List HistOp).foldlM
    (fun st op => (histStep st op).map (·.1))
    ({ pool := { ts := 64, feeRate := 3000, protoRate := 0, price := 18446744073709551616, tick := 0 } } : HistState)).toOption.map
      (·.pool.liq)) = some 1500 := by decide +kernel

end WP.C05
