import WP.Lemmas.Loop
import WP.Props.C02
/-
  Properties C06 / C03 (swap-loop part) — accounting identities of a whole swap.

  Model: `swap` / `swapLoop` / `swapStep` (WP/Model/SwapLoop.lean) = swap_manager::swap.  The model
  records one trace entry per executed step: (liquidity, fee rate, amount_in, amount_out, fee, next price).
  Proved by induction over the loop (any number of steps, any tick layout, static or adaptive fee):
    * what the trader pays is exactly Σ amount_in + Σ fee, what they receive exactly Σ amount_out;
    * lp_fee + protocol_fee = Σ fee, protocol_fee = Σ ⌊fee·p/10^4⌋;
    * every trace entry is a successful `computeSwap` (so all C02 theorems apply per step);
    * never more than the specified amount; on exit remaining = 0 or price = adjusted limit;
      exact-out without an explicit limit delivers the full amount or fails.
-/
namespace WP.C06
open WP WP.Gen

abbrev Step := Nat × Nat × Nat × Nat × Nat × Nat   -- liq, rate, in, out, fee, next

def sumIn : List Step → Nat
  | [] => 0
  | (_, _, i, _, _, _) :: r => i + sumIn r
def sumOut : List Step → Nat
  | [] => 0
  | (_, _, _, o, _, _) :: r => o + sumOut r
def sumFee : List Step → Nat
  | [] => 0
  | (_, _, _, _, f, _) :: r => f + sumFee r
/-- protocol share of one step's fee: ⌊fee·p/10^4⌋ (0 when the protocol fee rate is 0) -/
def cut (protoRate fee : Nat) : Nat := if protoRate > 0 then fee * protoRate / PROTOCOL_FEE_RATE_MUL_VALUE else 0
def sumCut (protoRate : Nat) : List Step → Nat
  | [] => 0
  | (_, _, _, _, f, _) :: r => cut protoRate f + sumCut protoRate r

/-- each trace entry comes from a successful `computeSwap` in the swap's mode and direction -/
def StepsValid (c : SwapCtx) (steps : List Step) : Prop :=
  ∀ st ∈ steps, ∃ rem cur tgt,
    computeSwap rem st.2.1 st.1 cur tgt c.isInput c.aToB =
      .ok { amountIn := st.2.2.1, amountOut := st.2.2.2.1, nextPrice := st.2.2.2.2.2, feeAmount := st.2.2.2.2.1 }

structure LoopInv (c : SwapCtx) (amount : Nat) (s : SwapSt) : Prop where
  amounts : if c.isInput then s.remaining + sumIn s.steps + sumFee s.steps = amount ∧ s.calculated = sumOut s.steps
            else s.remaining + sumOut s.steps = amount ∧ s.calculated = sumIn s.steps + sumFee s.steps
  fees : s.feeSum = sumFee s.steps
  feeBound : s.feeSum ≤ U64_MAX
  proto : s.protoFee = sumCut c.protoRate s.steps
  valid : StepsValid c s.steps

theorem cut_le (p f : Nat) (hp : p ≤ PROTOCOL_FEE_RATE_MUL_VALUE) : cut p f ≤ f := by
  unfold cut
  split
  · exact Nat.div_le_of_le_mul (Nat.mul_comm f _ ▸ Nat.mul_le_mul_left f hp)
  · exact Nat.zero_le f

theorem sumCut_le (p : Nat) (hp : p ≤ PROTOCOL_FEE_RATE_MUL_VALUE) : ∀ l, sumCut p l ≤ sumFee l
  | [] => Nat.le_refl 0
  | (_, _, _, _, f, _) :: tl => Nat.add_le_add (cut_le p f hp) (sumCut_le p hp tl)

theorem stepAmounts_spec (isInput : Bool) (rem cal : Nat) (sc : SwapStep) (ra : Nat × Nat)
    (h : stepAmounts isInput rem cal sc = .ok ra) :
    if isInput then rem = ra.1 + sc.amountIn + sc.feeAmount ∧ ra.2 = cal + sc.amountOut
    else rem = ra.1 + sc.amountOut ∧ ra.2 = cal + sc.amountIn + sc.feeAmount := by
  unfold stepAmounts at h
  cases isInput with
  | true =>
    rw [if_pos rfl] at h ⊢
    split at h
    · cases h
    · rename_i r1 h1
      split at h
      · cases h
      · rename_i r2 h2
        split at h
        · cases h
        · rename_i c1 h3
          cases h
          obtain ⟨a1, rfl⟩ := checkedSub64_ok.mp h1
          obtain ⟨a2, rfl⟩ := checkedSub64_ok.mp h2
          exact ⟨by omega, (checkedAdd64_ok.mp h3).2⟩
  | false =>
    rw [if_neg Bool.false_ne_true] at h ⊢
    split at h
    · cases h
    · rename_i r1 h1
      split at h
      · cases h
      · rename_i c1 h2
        split at h
        · cases h
        · rename_i c2 h3
          cases h
          obtain ⟨a1, rfl⟩ := checkedSub64_ok.mp h1
          obtain ⟨_, rfl⟩ := checkedAdd64_ok.mp h2
          exact ⟨by omega, (checkedAdd64_ok.mp h3).2⟩

theorem calculateFees_proto (fee p liq cur fg : Nat) (h : cur + cut p fee < TWO64) :
    (calculateFees fee p liq cur fg).1 = cur + cut p fee := by
  unfold calculateFees
  unfold cut at h ⊢
  dsimp only
  by_cases hp : p > 0
  · rw [if_pos hp] at h ⊢
    rw [if_pos hp]
    exact Nat.mod_eq_of_lt h
  · rw [if_neg hp, if_neg hp]; rfl

theorem loopInv_init (p : PoolD) (ticks : TickMap) (arrays : List Int) (amount limit : Nat) (isInput aToB : Bool)
    (rewards : List RewardInfo) (fm : FeeMgr) :
    LoopInv (swapCtxOf p arrays limit isInput aToB rewards) amount (swapInit p ticks amount aToB fm) :=
  { amounts := by cases isInput <;> exact ⟨rfl, rfl⟩, fees := rfl, feeBound := Nat.zero_le _, proto := rfl,
    valid := fun _ h => nomatch h }

theorem step_preserves (c : SwapCtx) (amount : Nat) (s s' : SwapSt) (nai : Nat) (nti : Int) (ntp tgt : Nat)
    (hp : c.protoRate ≤ PROTOCOL_FEE_RATE_MUL_VALUE)
    (inv : LoopInv c amount s) (h : swapStep c s nai nti ntp tgt = .ok s') : LoopInv c amount s' := by
  obtain ⟨sc, ra, feeSum, cr, fm', hsc, hra, hfee, _, _, rfl⟩ := swapStep_ok.mp h
  obtain ⟨hf2, rfl⟩ := checkedAdd64_ok.mp hfee
  have ham := stepAmounts_spec _ _ _ _ _ hra
  have hfees := inv.fees
  refine ⟨?_, ?_, hf2, ?_, ?_⟩
  · have := inv.amounts
    by_cases hi : c.isInput = true
    · rw [if_pos hi] at this ham ⊢
      obtain ⟨h1, h2⟩ := this
      obtain ⟨h3, h4⟩ := ham
      exact ⟨show ra.1 + (sc.amountIn + sumIn s.steps) + (sc.feeAmount + sumFee s.steps) = amount by rw [← h1, h3]; ac_rfl,
        show ra.2 = sc.amountOut + sumOut s.steps by rw [h4, h2, Nat.add_comm]⟩
    · rw [if_neg hi] at this ham ⊢
      obtain ⟨h1, h2⟩ := this
      obtain ⟨h3, h4⟩ := ham
      exact ⟨show ra.1 + (sc.amountOut + sumOut s.steps) = amount by rw [← h1, h3]; ac_rfl,
        show ra.2 = sc.amountIn + sumIn s.steps + (sc.feeAmount + sumFee s.steps) by rw [h4, h2]; ac_rfl⟩
  · show s.feeSum + sc.feeAmount = sc.feeAmount + sumFee s.steps
    rw [hfees, Nat.add_comm]
  · -- no wrap: Σ cuts ≤ Σ fees ≤ u64::MAX
    have h1 := sumCut_le c.protoRate hp s.steps
    have h2 := cut_le c.protoRate sc.feeAmount hp
    have hpr := inv.proto
    have ht : U64_MAX < TWO64 := by decide
    show (calculateFees sc.feeAmount c.protoRate s.liq s.protoFee s.fgIn).1 = cut c.protoRate sc.feeAmount + sumCut c.protoRate s.steps
    rw [calculateFees_proto _ _ _ _ _ (by omega)]
    omega
  · intro st hmem
    rcases List.mem_cons.mp hmem with e | e
    · subst e; exact ⟨_, _, _, hsc⟩
    · exact inv.valid st e

theorem loop_preserves (c : SwapCtx) (amount : Nat) (hp : c.protoRate ≤ PROTOCOL_FEE_RATE_MUL_VALUE) :
    ∀ (fuel : Nat) (s s' : SwapSt) (inner : Option (Nat × Int × Nat × Nat)),
      LoopInv c amount s → swapLoop c fuel s inner = .ok s' →
      LoopInv c amount s' ∧ (s'.remaining = 0 ∨ s'.price = c.limit) :=
  swapLoop_ind c (fun s _ => LoopInv c amount s) (fun _ _ inv _ _ _ => inv)
    (fun s s' nai nti ntp tgt inv h =>
      ⟨step_preserves c amount s s' nai nti ntp tgt hp inv h, fun _ => step_preserves c amount s s' nai nti ntp tgt hp inv h⟩)

theorem sum_reverse (f : List Step → Nat) (g : Step → Nat) (hnil : f [] = 0) (hcons : ∀ x l, f (x :: l) = g x + f l) :
    ∀ l : List Step, f l.reverse = f l := by
  have aux : ∀ l acc, f (l.reverseAux acc) = f l + f acc := by
    intro l; induction l with
    | nil => intro acc; simp [List.reverseAux, hnil]
    | cons hd tl ih => intro acc; simp only [List.reverseAux, ih, hcons]; omega
  intro l
  have := aux l []
  rw [hnil] at this
  show f (l.reverseAux []) = f l
  omega

theorem sumIn_reverse (l : List Step) : sumIn l.reverse = sumIn l :=
  sum_reverse sumIn (fun x => x.2.2.1) rfl (by intro ⟨a, b, c, d, f, g⟩ l; rfl) l
theorem sumOut_reverse (l : List Step) : sumOut l.reverse = sumOut l :=
  sum_reverse sumOut (fun x => x.2.2.2.1) rfl (by intro ⟨a, b, c, d, f, g⟩ l; rfl) l
theorem sumFee_reverse (l : List Step) : sumFee l.reverse = sumFee l :=
  sum_reverse sumFee (fun x => x.2.2.2.2.1) rfl (by intro ⟨a, b, c, d, f, g⟩ l; rfl) l
theorem sumCut_reverse (p : Nat) (l : List Step) : sumCut p l.reverse = sumCut p l :=
  sum_reverse (sumCut p) (fun x => cut p x.2.2.2.2.1) rfl (by intro ⟨a, b, c, d, f, g⟩ l; rfl) l

/-- `swapFinish` hands out (A, B) = (x, y) if `aToB = isInput`, else (y, x), with `x` the used part of the
    specified amount and `y` the calculated amount; here read off by input, output and specified token -/
theorem swapFinish_amounts {p : PoolD} {amount limit : Nat} {isInput aToB : Bool} {now : Nat} {rewards : List RewardInfo}
    {s : SwapSt} {u : PostSwap} (h : swapFinish p amount limit isInput aToB now rewards s = .ok u) :
    (if aToB then u.amountA else u.amountB) = (if isInput then amount - s.remaining else s.calculated) ∧
    (if aToB then u.amountB else u.amountA) = (if isInput then s.calculated else amount - s.remaining) ∧
    (if aToB = isInput then u.amountA else u.amountB) = amount - s.remaining := by
  obtain ⟨_, _, _, rfl⟩ := swapFinish_ok.mp h
  cases aToB <;> cases isInput <;> exact ⟨rfl, rfl, rfl⟩

/-- C06 / C03: the accounting of a whole successful swap. `u.steps` is the step trace. -/
theorem swap_accounting (p : PoolD) (ticks : TickMap) (arrays : List Int) (amount limit : Nat) (isInput aToB : Bool)
    (now : Nat) (af : Option AfInfo) (fuel : Nat) (u : PostSwap)
    (hp : p.protoRate ≤ PROTOCOL_FEE_RATE_MUL_VALUE)
    (h : swap p ticks arrays amount limit isInput aToB now af fuel = .ok u) :
    -- input / output token amounts of the trader
    (if aToB then u.amountA else u.amountB) = sumIn u.steps + sumFee u.steps ∧
    (if aToB then u.amountB else u.amountA) = sumOut u.steps ∧
    -- the fee splits exactly into the LP share and the protocol share, the latter floored per step
    u.lpFee + u.protoFee = sumFee u.steps ∧ u.protoFee = sumCut p.protoRate u.steps ∧
    -- bounds of C03
    (if isInput then (if aToB then u.amountA else u.amountB) ≤ amount else (if aToB then u.amountB else u.amountA) ≤ amount) ∧
    (isInput = false → limit = NO_EXPLICIT_SQRT_PRICE_LIMIT → (if aToB then u.amountB else u.amountA) = amount) ∧
    -- every trace entry is a successful compute_swap step
    StepsValid (swapCtxOf p arrays limit isInput aToB u.rewards) u.steps := by
  obtain ⟨rewards, fm, s, _, _, _, hs, hfin⟩ := swap_ok.mp h
  obtain ⟨inv, _⟩ := loop_preserves _ amount hp fuel _ s none (loopInv_init p ticks arrays amount limit isInput aToB rewards fm) hs
  obtain ⟨hin, hout, _⟩ := swapFinish_amounts hfin
  rw [hin, hout]
  obtain ⟨hpf, fm', _, rfl⟩ := swapFinish_ok.mp hfin
  have ham : if isInput then s.remaining + sumIn s.steps + sumFee s.steps = amount ∧ s.calculated = sumOut s.steps
      else s.remaining + sumOut s.steps = amount ∧ s.calculated = sumIn s.steps + sumFee s.steps := inv.amounts
  have hproto : s.protoFee = sumCut p.protoRate s.steps := inv.proto
  have hle : s.protoFee ≤ s.feeSum := by rw [hproto, inv.fees]; exact sumCut_le p.protoRate hp s.steps
  dsimp only
  rw [sumIn_reverse, sumOut_reverse, sumFee_reverse, sumCut_reverse]
  refine ⟨?_, ?_, (Nat.sub_add_cancel hle).trans inv.fees, hproto, ?_, ?_, fun st hst => inv.valid st (List.mem_reverse.mp hst)⟩
  · by_cases hi : isInput = true
    · rw [if_pos hi] at ham ⊢; exact Nat.sub_eq_of_eq_add (by rw [← ham.1]; ac_rfl)
    · rw [if_neg hi] at ham ⊢; exact ham.2
  · by_cases hi : isInput = true
    · rw [if_pos hi] at ham ⊢; exact ham.2
    · rw [if_neg hi] at ham ⊢; exact Nat.sub_eq_of_eq_add (by rw [← ham.1, Nat.add_comm])
  · by_cases hi : isInput = true
    · rw [if_pos hi, if_pos hi]; exact Nat.sub_le _ _
    · rw [if_neg hi, if_neg hi]; exact Nat.sub_le _ _
  · intro h1 h2
    subst h1
    -- the partial-fill guard of `swapFinish` passed, so nothing remains
    have hz : s.remaining = 0 := by
      by_contra hc
      exact hpf (by rw [decide_eq_true (Nat.pos_of_ne_zero hc), decide_eq_true h2]; rfl)
    rw [if_neg Bool.false_ne_true, hz]
    rfl

end WP.C06
