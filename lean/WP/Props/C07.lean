import WP.Model.Pool
/-
  Property C07 — a position earns its pro-rata share of fees only while the price is in range.

  All accumulators live in Z/2^128 (`wadd`, `wsub`).  Proved about the model of tick_manager /
  position_manager (the same functions serve fees A, B and the three rewards, so C11 reuses them):
   * crossing a bound (outside := global − outside, tick index moving across it) leaves the growth
     inside a range unchanged, for either bound and either direction  (cross_lower_*, cross_upper_*);
   * while the current tick is inside [lower, upper) the growth inside advances by exactly the
     global growth; while it is outside it does not advance (inside_tracks_*), whatever the stored
     `outside` values are and across wrap-around of the accumulators;
   * a freshly initialised bound starts with a convention that makes the growth inside 0 … so a
     position earns nothing from before its liquidity was added (fresh_inside_zero);
   * the credited amount is ⌊L·Δ/2^64⌋ ≤ L·Δ/2^64, and 0 when L = 0 or on overflow, never more
     (credit_le).
  The composition of these lemmas along a whole swap and along histories (Δ of the growth inside
  equals the sum of the in-range step growths, each a pro-rata share) is proved in
  WP/Props/GrowthPath.lean (`swap_fee_growth`) and WP/Props/ReachGrowth.lean (`history_fee_growth`);
  the link to the amounts credited over several position updates is checked on the implementation
  by the shadow-ledger oracle of the history harness and by the model correspondence.
-/
namespace WP.C07
open WP

theorem two128_pos : 0 < TWO128 := by decide

theorem wsub_lt (a b : Nat) : wsub a b < TWO128 := Nat.mod_lt _ two128_pos

theorem wadd_lt (a b : Nat) : wadd a b < TWO128 := Nat.mod_lt _ two128_pos

/-- `wadd` and `wsub` are `+` and `−` of ℤ/2^128 on representatives; the identities below are
    read off in ℤ -/
theorem wadd_cast (a b : Nat) : ((wadd a b : Nat) : Int) = ((a : Int) + b) % (TWO128 : Nat) := by
  unfold wadd; rw [Int.natCast_emod, Int.natCast_add]

theorem wsub_cast (a b : Nat) : ((wsub a b : Nat) : Int) = ((a : Int) - b) % (TWO128 : Nat) := by
  have h : b % TWO128 ≤ a + TWO128 := Nat.le_trans (Nat.le_of_lt (Nat.mod_lt _ two128_pos)) (Nat.le_add_left _ _)
  unfold wsub
  rw [Int.natCast_emod, Int.natCast_sub h, Int.natCast_add, Int.natCast_emod, Int.sub_emod_emod, Int.add_comm a,
    Int.add_sub_assoc, Int.add_emod_left]

theorem wsub_wsub_cancel (g o : Nat) (ho : o < TWO128) : wsub g (wsub g o) = o := by
  apply Int.ofNat_inj.mp
  rw [wsub_cast, wsub_cast, Int.sub_emod_emod, Int.sub_sub_self]
  exact Int.emod_eq_of_lt (Int.natCast_nonneg o) (Int.ofNat_lt.mpr ho)

theorem wsub_wadd_comm (g d o : Nat) : wsub (wadd g d) o = wadd (wsub g o) d := by
  apply Int.ofNat_inj.mp
  rw [wsub_cast, wadd_cast, wadd_cast, wsub_cast, Int.emod_sub_emod, Int.emod_add_emod,
    Int.sub_eq_add_neg, Int.sub_eq_add_neg, Int.add_right_comm]

theorem wsub_wadd_wadd (a b d : Nat) : wsub (wadd a d) (wadd b d) = wsub a b := by
  apply Int.ofNat_inj.mp
  rw [wsub_cast, wadd_cast, wadd_cast, wsub_cast, ← Int.sub_emod, Int.add_sub_add_right]

theorem wsub_zero (g : Nat) (hg : g < TWO128) : wsub g 0 = g := by
  unfold wsub
  rw [Nat.zero_mod, Nat.sub_zero, Nat.add_mod_right, Nat.mod_eq_of_lt hg]

theorem wsub_self (g : Nat) (hg : g < TWO128) : wsub g g = 0 := by
  unfold wsub
  rw [Nat.mod_eq_of_lt hg, Nat.add_sub_cancel_left, Nat.mod_self]

/-- the initialized-bound form of `growthInside` -/
def insideInit (cur loIdx : Int) (loOut : Nat) (upIdx : Int) (upOut glob : Nat) : Nat :=
  let below := if cur < loIdx then wsub glob loOut else loOut
  let above := if cur < upIdx then upOut else wsub glob upOut
  wsub (wsub glob below) above

theorem growthInside_init (cur : Int) (lo up : TickData) (loIdx upIdx : Int) (loOut upOut glob : Nat)
    (hl : lo.initialized = true) (hu : up.initialized = true) :
    growthInside cur lo loIdx loOut up upIdx upOut glob = insideInit cur loIdx loOut upIdx upOut glob := by
  unfold growthInside insideInit; simp [hl, hu]

/-! `insideInit` depends on the current tick only through its region: below, in, or above the range -/

theorem insideInit_below {cur loIdx upIdx : Int} (loOut upOut glob : Nat) (h1 : cur < loIdx) (h : loIdx < upIdx) :
    insideInit cur loIdx loOut upIdx upOut glob = wsub (wsub glob (wsub glob loOut)) upOut := by
  unfold insideInit
  rw [if_pos h1, if_pos (Int.lt_trans h1 h)]

theorem insideInit_in {cur loIdx upIdx : Int} (loOut upOut glob : Nat) (h1 : loIdx ≤ cur) (h2 : cur < upIdx) :
    insideInit cur loIdx loOut upIdx upOut glob = wsub (wsub glob loOut) upOut := by
  unfold insideInit
  rw [if_neg (Int.not_lt.mpr h1), if_pos h2]

theorem insideInit_above {cur loIdx upIdx : Int} (loOut upOut glob : Nat) (h1 : upIdx ≤ cur) (h : loIdx < upIdx) :
    insideInit cur loIdx loOut upIdx upOut glob = wsub (wsub glob loOut) (wsub glob upOut) := by
  unfold insideInit
  rw [if_neg (Int.not_lt.mpr (Int.le_trans (Int.le_of_lt h) h1)), if_neg (Int.not_lt.mpr h1)]

theorem insideInit_cur_congr (cur cur' lo hi : Int) (oL oH g : Nat) (h1 : cur < lo ↔ cur' < lo) (h2 : cur < hi ↔ cur' < hi) :
    insideInit cur lo oL hi oH g = insideInit cur' lo oL hi oH g := by
  unfold insideInit
  simp only [h1, h2]

/-- crossing the LOWER bound leftwards (a→b): index loIdx ↦ loIdx − 1, outside ↦ global − outside -/
theorem cross_lower_left (loIdx upIdx : Int) (loOut upOut glob : Nat) (h : loIdx < upIdx)
    (hg : glob < TWO128) (ho : loOut < TWO128) :
    insideInit (loIdx - 1) loIdx (wsub glob loOut) upIdx upOut glob = insideInit loIdx loIdx loOut upIdx upOut glob := by
  rw [insideInit_below _ _ _ (Int.sub_one_lt_iff.mpr (Int.le_refl _)) h, insideInit_in _ _ _ (Int.le_refl _) h,
    wsub_wsub_cancel _ _ ho]

/-- crossing the LOWER bound rightwards (b→a): index loIdx − 1 ↦ loIdx -/
theorem cross_lower_right (loIdx upIdx : Int) (loOut upOut glob : Nat) (h : loIdx < upIdx)
    (hg : glob < TWO128) (ho : loOut < TWO128) :
    insideInit loIdx loIdx (wsub glob loOut) upIdx upOut glob = insideInit (loIdx - 1) loIdx loOut upIdx upOut glob := by
  rw [insideInit_in _ _ _ (Int.le_refl _) h, insideInit_below _ _ _ (Int.sub_one_lt_iff.mpr (Int.le_refl _)) h]

/-- crossing the UPPER bound leftwards (a→b): index upIdx ↦ upIdx − 1 -/
theorem cross_upper_left (loIdx upIdx : Int) (loOut upOut glob : Nat) (h : loIdx < upIdx)
    (hg : glob < TWO128) (ho : upOut < TWO128) :
    insideInit (upIdx - 1) loIdx loOut upIdx (wsub glob upOut) glob = insideInit upIdx loIdx loOut upIdx upOut glob := by
  rw [insideInit_in _ _ _ (Int.le_sub_one_of_lt h) (Int.sub_one_lt_iff.mpr (Int.le_refl _)),
    insideInit_above _ _ _ (Int.le_refl _) h]

/-- crossing the UPPER bound rightwards (b→a): index upIdx − 1 ↦ upIdx -/
theorem cross_upper_right (loIdx upIdx : Int) (loOut upOut glob : Nat) (h : loIdx < upIdx)
    (hg : glob < TWO128) (ho : upOut < TWO128) :
    insideInit upIdx loIdx loOut upIdx (wsub glob upOut) glob = insideInit (upIdx - 1) loIdx loOut upIdx upOut glob := by
  rw [insideInit_above _ _ _ (Int.le_refl _) h, wsub_wsub_cancel _ _ ho,
    insideInit_in _ _ _ (Int.le_sub_one_of_lt h) (Int.sub_one_lt_iff.mpr (Int.le_refl _))]

/-- in range: the growth inside advances by exactly the global growth `d` (mod 2^128) -/
theorem inside_tracks_in_range (cur loIdx upIdx : Int) (loOut upOut glob d : Nat)
    (h1 : loIdx ≤ cur) (h2 : cur < upIdx) (hg : glob < TWO128) (hl : loOut < TWO128) (hu : upOut < TWO128) :
    insideInit cur loIdx loOut upIdx upOut (wadd glob d) = wadd (insideInit cur loIdx loOut upIdx upOut glob) d := by
  rw [insideInit_in _ _ _ h1 h2, insideInit_in _ _ _ h1 h2, wsub_wadd_comm, wsub_wadd_comm]

/-- below the range: the growth inside does not move -/
theorem inside_const_below (cur loIdx upIdx : Int) (loOut upOut glob d : Nat)
    (h1 : cur < loIdx) (h : loIdx < upIdx) (hg : glob < TWO128) (hl : loOut < TWO128) (hu : upOut < TWO128) :
    insideInit cur loIdx loOut upIdx upOut (wadd glob d) = insideInit cur loIdx loOut upIdx upOut glob := by
  rw [insideInit_below _ _ _ h1 h, insideInit_below _ _ _ h1 h, wsub_wsub_cancel _ _ hl, wsub_wsub_cancel _ _ hl]

/-- above the range: the growth inside does not move -/
theorem inside_const_above (cur loIdx upIdx : Int) (loOut upOut glob d : Nat)
    (h1 : upIdx ≤ cur) (h : loIdx < upIdx) (hg : glob < TWO128) (hl : loOut < TWO128) (hu : upOut < TWO128) :
    insideInit cur loIdx loOut upIdx upOut (wadd glob d) = insideInit cur loIdx loOut upIdx upOut glob := by
  rw [insideInit_above _ _ _ h1 h, insideInit_above _ _ _ h1 h, wsub_wadd_comm glob d loOut, wsub_wadd_comm glob d upOut,
    wsub_wadd_wadd]

/-- the new-tick convention: a range whose two bounds are initialised NOW (outside := global when
    current ≥ tick, else 0) has growth inside 0 — nothing from before the liquidity was added -/
theorem fresh_inside_zero (cur loIdx upIdx : Int) (glob : Nat) (hg : glob < TWO128) :
    insideInit cur loIdx (if cur ≥ loIdx then glob else 0) upIdx (if cur ≥ upIdx then glob else 0) glob = 0 ∨
    loIdx ≥ upIdx := by
  by_cases h : loIdx < upIdx
  · left
    by_cases c1 : cur < loIdx
    · rw [insideInit_below _ _ _ c1 h, if_neg (Int.not_le.mpr c1), if_neg (Int.not_le.mpr (Int.lt_trans c1 h)),
        wsub_zero glob hg, wsub_self glob hg, wsub_self 0 two128_pos]
    · by_cases c2 : cur < upIdx
      · rw [insideInit_in _ _ _ (Int.not_lt.mp c1) c2, if_pos (Int.not_lt.mp c1), if_neg (Int.not_le.mpr c2),
          wsub_self glob hg, wsub_self 0 two128_pos]
      · rw [insideInit_above _ _ _ (Int.not_lt.mp c2) h, if_pos (Int.not_lt.mp c1), if_pos (Int.not_lt.mp c2),
          wsub_self glob hg, wsub_self 0 two128_pos]
  · right; exact Int.not_lt.mp h

/-- the uninitialised-bound convention of `growthInside` agrees with the new-tick convention of
    `next_tick_modify_liquidity_update`, so reading before or after initialising gives the same value -/
theorem uninit_matches_fresh (cur : Int) (lo up : TickData) (loIdx upIdx : Int) (glob : Nat)
    (hl : lo.initialized = false) (hu : up.initialized = false) (hg : glob < TWO128) (h : loIdx < upIdx) :
    growthInside cur lo loIdx lo.fgoA up upIdx up.fgoA glob = 0 := by
  unfold growthInside
  simp only [hl, hu, Bool.not_false, if_true]
  rw [wsub_self glob hg, wsub_self 0 two128_pos]

/-- the credited amount never exceeds the exact share L·Δ/2^64, and it is 0 when L = 0 -/
theorem credit_le (L delta : Nat) : mulShiftOr0 L delta * TWO64 ≤ L * delta ∧ (L = 0 → mulShiftOr0 L delta = 0) := by
  have ht : TWO64 = 18446744073709551616 := rfl
  have hu : U128_MAX = 340282366920938463463374607431768211455 := rfl
  unfold mulShiftOr0 checkedMulShiftRightRoundUpIf
  by_cases hL : L = 0
  · subst hL; simp
  · by_cases hd : delta = 0
    · subst hd; simp
    · have h0 : (decide (L = 0) || decide (delta = 0)) = false := by simp [hL, hd]
      simp only [h0, Bool.false_eq_true, if_false]
      by_cases h1 : L * delta > U128_MAX
      · simp only [h1, if_true]
        exact ⟨by omega, fun h => absurd h hL⟩
      · simp only [h1, if_false, Bool.false_and, Bool.false_eq_true]
        have hlt : L * delta / TWO64 < TWO64 := by
          rw [Nat.div_lt_iff_lt_mul (by decide), ht]; omega
        rw [Nat.mod_eq_of_lt hlt]
        exact ⟨Nat.div_mul_le_self _ _, fun h => absurd h hL⟩

-- Non-vacuity: wrap-around example — global wraps past 2^128 and the inside growth still advances by d
example : insideInit 5 0 (TWO128 - 3) 10 7 (wadd (TWO128 - 1) 10) = wadd (insideInit 5 0 (TWO128 - 3) 10 7 (TWO128 - 1)) 10 := by
  decide +kernel

end WP.C07
