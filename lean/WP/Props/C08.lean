import WP.Props.C02.Amounts
import WP.Model.Pool
import WP.Lemmas.Except
/-
  Property C08 — liquidity converts to token amounts exactly: up on deposit, down on withdrawal.

  Model: `calculateLiquidityTokenDeltas` (= calculate_liquidity_token_deltas and its Pinocchio twin,
  which the correspondence harness shows identical), `estimateMaxLiquidity`
  (= estimate_max_liquidity_from_token_amounts).  Exact amounts as in C02 (`roundA`, `roundB`).
-/
namespace WP.C08
open WP WP.Gen WP.C02

/-- exact cost in token A / B of liquidity `L` over the price interval [lo, hi], rounded `up` or down -/
def costA (L lo hi : Nat) (up : Bool) : Nat := roundA L lo hi up
def costB (L lo hi : Nat) (up : Bool) : Nat := roundB L lo hi up

/-- stated for `R Nat`, not `R α`: only then is the `match` here the one the model's definitions contain -/
theorem ok_of_match {β : Type} {t : R Nat} {k : Nat → R β} {r : β}
    (h : (match t with | .error e => Except.error e | .ok a => k a) = .ok r) : ∃ a, t = .ok a ∧ k a = .ok r := by
  cases t with
  | error e => cases h
  | ok a => exact ⟨a, rfl, h⟩

set_option linter.unusedVariables false in
/-- C08(a,b,c): adding liquidity costs the exact amounts rounded UP, removing returns them rounded
    DOWN; only token A below the range, only token B above it (case split on the current tick). -/
theorem deltas_spec (curTick : Int) (price : Nat) (lower upper : Int) (delta : Int) (a b : Nat)
    (hl : 0 < sp lower) (hu : 0 < sp upper) (hp : 0 < price)
    (h : calculateLiquidityTokenDeltas curTick price lower upper delta = .ok (a, b)) :
    let L := delta.natAbs
    let up := decide (delta > 0)
    delta ≠ 0 ∧
    (if curTick < lower then
        a = costA L (lo' (sp lower) (sp upper)) (hi' (sp lower) (sp upper)) up ∧ b = 0
     else if curTick < upper then
        a = costA L (lo' price (sp upper)) (hi' price (sp upper)) up ∧
        b = costB L (lo' (sp lower) price) (hi' (sp lower) price) up
     else
        a = 0 ∧ b = costB L (lo' (sp lower) (sp upper)) (hi' (sp lower) (sp upper)) up) := by
  unfold calculateLiquidityTokenDeltas at h
  obtain ⟨hd, h⟩ := ok_of_ite h
  refine ⟨hd, ?_⟩
  simp only [] at h
  by_cases c1 : curTick < lower
  · rw [if_pos c1] at h ⊢
    obtain ⟨av, hav, h⟩ := ok_of_match h
    cases h
    exact ⟨(getDeltaA_spec _ _ _ _ _ hav).1, rfl⟩
  · rw [if_neg c1] at h ⊢
    by_cases c2 : curTick < upper
    · rw [if_pos c2] at h ⊢
      obtain ⟨av, hav, h⟩ := ok_of_match h
      obtain ⟨bv, hbv, h⟩ := ok_of_match h
      cases h
      exact ⟨(getDeltaA_spec _ _ _ _ _ hav).1, (getDeltaB_spec _ _ _ _ _ hbv).1⟩
    · rw [if_neg c2] at h ⊢
      obtain ⟨bv, hbv, h⟩ := ok_of_match h
      cases h
      exact ⟨rfl, (getDeltaB_spec _ _ _ _ _ hbv).1⟩

theorem roundA_down_le_up (L lo hi : Nat) (h : 0 < hi * lo) :
    roundA L lo hi false ≤ roundA L lo hi true ∧ roundA L lo hi true ≤ roundA L lo hi false + 1 := by
  unfold roundA aNum aDen
  simp only [Bool.false_eq_true, if_false, if_true]
  exact ⟨floor_le_cdiv _ _ h, cdiv_le_floor_succ _ _ h⟩

theorem roundB_down_le_up (L lo hi : Nat) :
    roundB L lo hi false ≤ roundB L lo hi true ∧ roundB L lo hi true ≤ roundB L lo hi false + 1 := by
  unfold roundB bNum
  simp only [Bool.false_eq_true, if_false, if_true]
  exact ⟨floor_le_cdiv _ _ two64_pos, cdiv_le_floor_succ _ _ two64_pos⟩

theorem lo_hi_pos (p q : Nat) (hp : 0 < p) (hq : 0 < q) : 0 < hi' p q * lo' p q := by
  rcases lo_hi_cases p q with ⟨_, a, b⟩ | ⟨_, a, b⟩ <;> rw [a, b] <;> exact Nat.mul_pos (by omega) (by omega)

/-- C08(d): adding then removing the same liquidity at an unchanged price and tick never returns
    more than was paid, and loses at most one unit per token. -/
theorem add_remove_loss (curTick : Int) (price : Nat) (lower upper : Int) (L : Nat) (ai bi ad bd : Nat)
    (hl : 0 < sp lower) (hu : 0 < sp upper) (hp : 0 < price) (hL : 0 < L)
    (hinc : calculateLiquidityTokenDeltas curTick price lower upper (L : Int) = .ok (ai, bi))
    (hdec : calculateLiquidityTokenDeltas curTick price lower upper (-(L : Int)) = .ok (ad, bd)) :
    ad ≤ ai ∧ ai ≤ ad + 1 ∧ bd ≤ bi ∧ bi ≤ bd + 1 := by
  have i := (deltas_spec _ _ _ _ _ _ _ hl hu hp hinc).2
  have d := (deltas_spec _ _ _ _ _ _ _ hl hu hp hdec).2
  have e1 : ((L : Int)).natAbs = L := by simp
  have e2 : (-(L : Int)).natAbs = L := by simp
  have u1 : decide ((L : Int) > 0) = true := by simp; omega
  have u2 : decide (-(L : Int) > 0) = false := by simp
  simp only [e1, e2, u1, u2] at i d
  unfold costA costB at i d
  by_cases c1 : curTick < lower
  · simp only [c1, if_true] at i d
    have := roundA_down_le_up L (lo' (sp lower) (sp upper)) (hi' (sp lower) (sp upper)) (lo_hi_pos _ _ hl hu)
    omega
  · simp only [c1, if_false] at i d
    by_cases c2 : curTick < upper
    · simp only [c2, if_true] at i d
      have := roundA_down_le_up L (lo' price (sp upper)) (hi' price (sp upper)) (lo_hi_pos _ _ hp hu)
      have := roundB_down_le_up L (lo' (sp lower) price) (hi' (sp lower) price)
      omega
    · simp only [c2, if_false] at i d
      have := roundB_down_le_up L (lo' (sp lower) (sp upper)) (hi' (sp lower) (sp upper))
      omega

/-! ### the estimate is the maximum -/

/-- `⌊a·Q / d⌋` is the largest `q` with `⌈q·d / Q⌉ ≤ a` -/
theorem floor_is_max (a Q d : Nat) (hQ : 0 < Q) (hd : 0 < d) :
    cdiv (a * Q / d * d) Q ≤ a ∧ a < cdiv ((a * Q / d + 1) * d) Q := by
  rw [cdiv_le_iff hQ, lt_cdiv_iff hQ, Nat.mul_comm (_ + 1) d]
  exact ⟨Nat.div_mul_le_self _ _, Nat.lt_mul_div_succ _ hd⟩

/-- token B: `est = ⌊amount·Q / diff⌋` is the largest liquidity whose (rounded-up) cost fits `amount` -/
theorem estB_is_max (p0 p1 amount L : Nat) (h : estLiquidityForTokenB p0 p1 amount = .ok L) :
    costB L (lo' p0 p1) (hi' p0 p1) true ≤ amount ∧ amount < costB (L + 1) (lo' p0 p1) (hi' p0 p1) true := by
  unfold estLiquidityForTokenB at h
  simp only [] at h
  obtain ⟨hd, h⟩ := ok_of_ite h
  cases h
  unfold costB roundB bNum lo' hi'
  simp only [if_true]
  exact floor_is_max amount TWO64 _ two64_pos (Nat.pos_of_ne_zero hd)

/-- token A: `est = ⌊⌊hi·lo·amount / Q⌋ / diff⌋` is the largest liquidity whose cost fits `amount`
    (for prices and amounts in their machine ranges, where the 256-bit product cannot wrap) -/
theorem estA_is_max (p0 p1 amount L : Nat) (hp0 : 0 < p0) (hp1 : 0 < p1)
    (hnw : hi' p0 p1 * lo' p0 p1 * amount < TWO256)
    (h : estLiquidityForTokenA p0 p1 amount = .ok L) :
    costA L (lo' p0 p1) (hi' p0 p1) true ≤ amount ∧ amount < costA (L + 1) (lo' p0 p1) (hi' p0 p1) true := by
  have hden := lo_hi_pos p0 p1 hp0 hp1
  unfold estLiquidityForTokenA at h
  simp only [] at h
  unfold costA roundA aNum aDen
  unfold lo' hi' at hnw hden ⊢
  simp only [if_true]
  generalize (incOrder p0 p1).1 = lo at *
  generalize (incOrder p0 p1).2 = hi at *
  obtain ⟨hd, h⟩ := ok_of_ite h
  rw [Nat.mod_eq_of_lt hnw] at h
  split at h
  · cases h
    -- ⌊⌊m / Q⌋ / diff⌋ = ⌊m / (diff·Q)⌋: the statement for token B with `hi·lo` for `Q` and `diff·Q` for `diff`
    rw [Nat.div_div_eq_div_mul, Nat.mul_comm (hi * lo), Nat.mul_comm TWO64, Nat.mul_assoc, Nat.mul_assoc]
    exact floor_is_max amount (hi * lo) ((hi - lo) * TWO64) hden (Nat.mul_pos (Nat.pos_of_ne_zero hd) two64_pos)
  · cases h

theorem costA_mono (L L' lo hi : Nat) (h : L ≤ L') : costA L lo hi true ≤ costA L' lo hi true := by
  unfold costA roundA aNum
  simp only [if_true]
  exact cdiv_mono_left (Nat.mul_le_mul_right _ (Nat.mul_le_mul_right _ h))

theorem costB_mono (L L' lo hi : Nat) (h : L ≤ L') : costB L lo hi true ≤ costB L' lo hi true := by
  unfold costB roundB bNum
  simp only [if_true]
  exact cdiv_mono_left (Nat.mul_le_mul_right _ h)

/-- C08(e): with the price strictly inside the range, the estimate `min(est_A, est_B)` is the
    largest liquidity whose deposit cost fits BOTH maxima: it fits, and one more unit breaks one. -/
theorem estimate_is_max_in_range (cur : Nat) (tl tu : Int) (maxA maxB L : Nat)
    (hlo : sp tl < cur) (hhi : cur < sp tu) (hpos : 0 < sp tl)
    (hnw : hi' cur (sp tu) * lo' cur (sp tu) * maxA < TWO256)
    (h : estimateMaxLiquidity cur tl tu maxA maxB = .ok L) :
    (costA L (lo' cur (sp tu)) (hi' cur (sp tu)) true ≤ maxA ∧ costB L (lo' cur (sp tl)) (hi' cur (sp tl)) true ≤ maxB) ∧
    (maxA < costA (L + 1) (lo' cur (sp tu)) (hi' cur (sp tu)) true ∨ maxB < costB (L + 1) (lo' cur (sp tl)) (hi' cur (sp tl)) true) := by
  unfold estimateMaxLiquidity at h
  simp only [] at h
  rw [if_neg (by omega), if_neg (by omega)] at h
  obtain ⟨la, hla, h⟩ := ok_of_match h
  obtain ⟨lb, hlb, h⟩ := ok_of_match h
  cases h
  obtain ⟨a1, a2⟩ := estA_is_max cur (sp tu) maxA la (by omega) (by omega) hnw hla
  obtain ⟨b1, b2⟩ := estB_is_max cur (sp tl) maxB lb hlb
  refine ⟨⟨le_trans (costA_mono _ _ _ _ (Nat.min_le_left _ _)) a1, le_trans (costB_mono _ _ _ _ (Nat.min_le_right _ _)) b1⟩, ?_⟩
  by_cases c : la ≤ lb
  · left; rw [Nat.min_eq_left c]; exact a2
  · right; rw [Nat.min_eq_right (by omega)]; exact b2

-- Non-vacuity
example : calculateLiquidityTokenDeltas 0 18446744073709551616 (-64) 64 1000000 = .ok (3195, 3195) := by decide +kernel
example : calculateLiquidityTokenDeltas 0 18446744073709551616 (-64) 64 (-1000000) = .ok (3194, 3194) := by decide +kernel
example : (estimateMaxLiquidity 18446744073709551616 (-64) 64 3195 3195).toOption.isSome = true := by decide +kernel

end WP.C08
