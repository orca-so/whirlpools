import WP.Props.C09.Ticks
/-
  Property C09 — tick index and sqrt-price convert consistently over the whole supported range.

  The property theorems and the steps from the per-tick facts (`all_ticks`, WP/Props/C09/*) to them.  The model functions `sp`
  (`sqrt_price_from_tick_index`) and `ti` (`tick_index_from_sqrt_price`) are in
  WP/Model/TickMath.lean; their numeric constants are regenerated from the source on every
  run (WP/Gen/TickConsts.lean, WP/Gen/Consts.lean).
-/
namespace WP.C09
open WP WP.Gen

theorem minT : MIN_TICK_INDEX = -443636 := by decide
theorem maxT : MAX_TICK_INDEX = 443636 := by decide

theorem stepOk_spec (p q : Nat) (h : stepOk p q = true) :
    p < q ∧ (p * 4294967295) ^ 2 * 10001 ≤ (q * 4294967296) ^ 2 * 10000
      ∧ (q * 4294967296) ^ 2 * 10000 ≤ (p * 4294967297) ^ 2 * 10001 := by
  unfold stepOk at h
  simp only [Bool.and_eq_true, Nat.blt_eq, Nat.ble_eq, Nat.mul_eq, Nat.pow_eq] at h
  exact ⟨h.1.1, h.1.2, h.2⟩

/-- C09(a): the sqrt-price of a tick is strictly increasing in the tick index. -/
theorem sp_strictMono : ∀ t : Int, MIN_TICK_INDEX ≤ t → t < MAX_TICK_INDEX → sp t < sp (t + 1) := by
  intro t h1 h2
  rw [minT] at h1; rw [maxT] at h2
  exact (stepOk_spec _ _ (all_ticks t h1 h2).1).1

/-- C09(b): the published minimum and maximum sqrt-price at the minimum and maximum tick. -/
theorem sp_ends : sp MIN_TICK_INDEX = MIN_SQRT_PRICE_X64 ∧ sp MAX_TICK_INDEX = MAX_SQRT_PRICE_X64 := by
  decide +kernel

/-- C09(c): each step multiplies the price by sqrt(1.0001) to within 2^-32 relative error:
    (1 − 2^-32)² · 1.0001 ≤ (sp (t+1) / sp t)² ≤ (1 + 2^-32)² · 1.0001, in cross-multiplied form. -/
theorem sp_step_error : ∀ t : Int, MIN_TICK_INDEX ≤ t → t < MAX_TICK_INDEX →
    (sp t * (2 ^ 32 - 1)) ^ 2 * 10001 ≤ (sp (t + 1) * 2 ^ 32) ^ 2 * 10000 ∧
    (sp (t + 1) * 2 ^ 32) ^ 2 * 10000 ≤ (sp t * (2 ^ 32 + 1)) ^ 2 * 10001 := by
  intro t h1 h2
  rw [minT] at h1; rw [maxT] at h2
  have := (stepOk_spec _ _ (all_ticks t h1 h2).1).2
  norm_num at this ⊢
  exact this

theorem sp_lt_of_lt : ∀ (k : Nat) (s : Int), MIN_TICK_INDEX ≤ s → s + (k + 1 : Nat) ≤ MAX_TICK_INDEX →
    sp s < sp (s + (k + 1 : Nat)) := by
  intro k
  induction k with
  | zero =>
    intro s h1 h2
    have := sp_strictMono s h1 (by push_cast at h2; omega)
    simpa using this
  | succ k ih =>
    intro s h1 h2
    have a := ih s h1 (by push_cast at h2 ⊢; omega)
    have b := sp_strictMono (s + (k + 1 : Nat)) (by push_cast; omega) (by push_cast at h2 ⊢; omega)
    have e : s + ((k + 1 : Nat) : Int) + 1 = s + ((k + 1 + 1 : Nat) : Int) := by push_cast; omega
    rw [e] at b
    omega

theorem sp_lt : ∀ s t : Int, MIN_TICK_INDEX ≤ s → s < t → t ≤ MAX_TICK_INDEX → sp s < sp t := by
  intro s t h1 h2 h3
  have := sp_lt_of_lt (t - s - 1).toNat s h1 (by omega)
  have e : s + (((t - s - 1).toNat + 1 : Nat) : Int) = t := by omega
  rw [e] at this
  exact this

theorem sp_le : ∀ s t : Int, MIN_TICK_INDEX ≤ s → s ≤ t → t ≤ MAX_TICK_INDEX → sp s ≤ sp t := by
  intro s t h1 h2 h3
  rcases Int.lt_or_eq_of_le h2 with h | h
  · exact Nat.le_of_lt (sp_lt s t h1 h h3)
  · rw [h]

theorem sp_pos (t : Int) (h1 : MIN_TICK_INDEX ≤ t) (h2 : t ≤ MAX_TICK_INDEX) : sp t ≠ 0 := by
  have := sp_le MIN_TICK_INDEX t (le_refl _) h1 h2
  have e := sp_ends.1
  have : MIN_SQRT_PRICE_X64 ≤ sp t := by rw [← e]; exact this
  have : (4295048016 : Nat) ≤ sp t := this
  omega

theorem tick_at_min : tickLow (sp (-443636)) = -443636 - 1 ∧ tickHigh (sp (-443636)) = -443636 := by
  have : invOk 0 (sp (-443636)) = true := by decide +kernel
  have := invOk_spec 0 _ this
  simpa using this

theorem tick_at_price : ∀ t : Int, MIN_TICK_INDEX ≤ t → t ≤ MAX_TICK_INDEX →
    tickLow (sp t) = t - 1 ∧ tickHigh (sp t) = t := by
  intro t h1 h2
  rw [minT] at h1; rw [maxT] at h2
  by_cases h : t = -443636
  · rw [h]; exact tick_at_min
  · have := (all_ticks (t - 1) (by omega) (by omega)).2
    have e : t - 1 + 1 = t := by omega
    rw [e] at this
    have := invOk_spec _ _ this
    have e2 : (((t + 443636).toNat : Nat) : Int) = t + 443636 := by omega
    rw [e2] at this
    constructor <;> omega

theorem ti_of_interval (p : Nat) (t : Int) (h1 : MIN_TICK_INDEX ≤ t) (h2 : t < MAX_TICK_INDEX)
    (hlo : sp t ≤ p) (hhi : p < sp (t + 1)) : ti p = t := by
  have hp0 : sp t ≠ 0 := sp_pos t h1 (by omega)
  have hp : p ≠ 0 := by omega
  obtain ⟨a1, a2⟩ := tick_at_price t h1 (by omega)
  obtain ⟨b1, b2⟩ := tick_at_price (t + 1) (by omega) (by omega)
  have l1 := tickLow_mono (sp t) p hp0 hlo
  have l2 := tickLow_mono p (sp (t + 1)) hp (by omega)
  have u1 := tickHigh_mono (sp t) p hp0 hlo
  have u2 := tickHigh_mono p (sp (t + 1)) hp (by omega)
  obtain ⟨w1, w2⟩ := tick_window p
  -- by monotonicity the two estimates at `p` lie between those at `sp t` and `sp (t + 1)`: `tickLow p ∈ {t - 1, t}`,
  -- `tickHigh p ∈ {t, t + 1}`, at most one apart; whichever pair it is, the comparison with `sp` picks `t`
  unfold ti
  simp only []
  by_cases e : tickLow p = tickHigh p
  · rw [if_pos e]; omega
  · rw [if_neg e]
    by_cases c : tickLow p = t
    · have hh : tickHigh p = t + 1 := by omega
      rw [hh, if_neg (by omega), c]
    · have hl : tickLow p = t - 1 := by omega
      have hh : tickHigh p = t := by omega
      rw [hh, if_pos hlo]

theorem ti_max : ti MAX_SQRT_PRICE_X64 = MAX_TICK_INDEX := by
  obtain ⟨a1, a2⟩ := tick_at_price MAX_TICK_INDEX (by decide) (le_refl _)
  have e := sp_ends.2
  rw [e] at a1 a2
  unfold ti
  simp only []
  rw [a1, a2, if_neg (by rw [maxT]; omega), e, if_pos (le_refl _)]

theorem exists_tick : ∀ (k : Nat) (p : Nat), MIN_TICK_INDEX + k ≤ MAX_TICK_INDEX →
    sp MIN_TICK_INDEX ≤ p → p < sp (MIN_TICK_INDEX + k) →
    ∃ t : Int, MIN_TICK_INDEX ≤ t ∧ t < MIN_TICK_INDEX + k ∧ sp t ≤ p ∧ p < sp (t + 1) := by
  intro k
  induction k with
  | zero => intro p _ h1 h2; simp at h2; omega
  | succ k ih =>
    intro p hk h1 h2
    by_cases c : p < sp (MIN_TICK_INDEX + k)
    · obtain ⟨t, a, b, c1, d⟩ := ih p (by push_cast at hk; omega) h1 c
      exact ⟨t, a, by push_cast; omega, c1, d⟩
    · refine ⟨MIN_TICK_INDEX + k, by omega, by push_cast; omega, by omega, ?_⟩
      have e : MIN_TICK_INDEX + (k : Int) + 1 = MIN_TICK_INDEX + ((k + 1 : Nat) : Int) := by push_cast; omega
      rw [e]; exact h2

/-- C09(d): the tick of a sqrt-price is a tick whose price is at most that sqrt-price and whose
    successor's price is above it, for EVERY sqrt-price within bounds. -/
theorem ti_spec : ∀ p : Nat, MIN_SQRT_PRICE_X64 ≤ p → p ≤ MAX_SQRT_PRICE_X64 →
    MIN_TICK_INDEX ≤ ti p ∧ ti p ≤ MAX_TICK_INDEX ∧ sp (ti p) ≤ p ∧
      (ti p < MAX_TICK_INDEX → p < sp (ti p + 1)) := by
  intro p h1 h2
  by_cases c : p = MAX_SQRT_PRICE_X64
  · rw [c, ti_max]
    exact ⟨by decide, le_refl _, by rw [sp_ends.2], fun h => absurd h (lt_irrefl _)⟩
  · have hk : MIN_TICK_INDEX + ((887272 : Nat) : Int) = MAX_TICK_INDEX := by decide
    obtain ⟨t, a, b, c1, d⟩ := exists_tick 887272 p (by rw [hk]) (by rw [sp_ends.1]; exact h1)
      (by rw [hk, sp_ends.2]; omega)
    rw [hk] at b
    have := ti_of_interval p t a b c1 d
    rw [this]
    exact ⟨a, by omega, c1, fun _ => d⟩

/-- C09(e): … and it is the unique such tick. -/
theorem ti_unique : ∀ (p : Nat) (t : Int), MIN_SQRT_PRICE_X64 ≤ p → p ≤ MAX_SQRT_PRICE_X64 →
    MIN_TICK_INDEX ≤ t → t ≤ MAX_TICK_INDEX → sp t ≤ p → (t < MAX_TICK_INDEX → p < sp (t + 1)) →
    ti p = t := by
  intro p t h1 h2 a b c d
  by_cases e : t = MAX_TICK_INDEX
  · have : p = MAX_SQRT_PRICE_X64 := by
      have := sp_ends.2
      rw [e] at c; omega
    rw [this, e]; exact ti_max
  · exact ti_of_interval p t a (by omega) c (d (by omega))

/-- C09(f): converting a tick to a price and back returns the same tick. -/
theorem ti_sp : ∀ t : Int, MIN_TICK_INDEX ≤ t → t ≤ MAX_TICK_INDEX → ti (sp t) = t := by
  intro t a b
  have h1 : MIN_SQRT_PRICE_X64 ≤ sp t := by
    rw [← sp_ends.1]; exact sp_le _ _ (le_refl _) a b
  have h2 : sp t ≤ MAX_SQRT_PRICE_X64 := by
    rw [← sp_ends.2]; exact sp_le _ _ (by omega) b (le_refl _)
  exact ti_unique (sp t) t h1 h2 a b (le_refl _) (fun h => sp_strictMono t a h)

/-- C09(g): the fixed-width intermediates of the forward conversion never wrap: every tick price
    fits 96 bits, so each `mul_shift_96` result fits u128 (the ladder is increasing) -/
theorem sp_fits : ∀ t : Int, MIN_TICK_INDEX ≤ t → t ≤ MAX_TICK_INDEX → sp t < 2 ^ 96 := by
  intro t a b
  have h2 : sp t ≤ MAX_SQRT_PRICE_X64 := by
    rw [← sp_ends.2]; exact sp_le _ _ (by omega) b (le_refl _)
  have : MAX_SQRT_PRICE_X64 < 2 ^ 96 := by decide
  omega

-- non-vacuity: concrete instances that meet the hypotheses and exercise both branches of `ti`
example : ti 18446744073709551616 = 0 ∧ sp 0 = 18446744073709551616 := by decide +kernel
example : ti (sp 0 - 1) = -1 := by decide +kernel          -- tick_low ≠ tick_high, resolved by the exact comparison
example : MIN_TICK_INDEX ≤ (-427197 : Int) ∧ ti (sp (-427197)) = -427197 := by decide +kernel

end WP.C09
