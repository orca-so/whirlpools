import WP.Props.C09.Mono
/-
  C09: from what the kernel evaluates to statements about the model: the checked comparison gives
  tick_low / tick_high, and the two ladders climbed by `walk` are `sp`.
-/
namespace WP.C09
open WP WP.Gen

/-- the model's loop adds `bit · mᵢ` with `bit` halving from `2^(n+e)`; `log2Bits` collects the same `mᵢ` by
    doubling: the two differ by the factor `2^(e+1)`, whatever is already in the accumulators -/
theorem log2Iter_bits : ∀ (n e r a acc : Nat),
    log2Iter n r (2 ^ (n + e)) (acc + 2 ^ (n + e + 1) * a) = acc + 2 ^ (e + 1) * log2Bits n r a := by
  intro n
  induction n with
  | zero => intro e r a acc; simp [log2Iter, log2Bits]
  | succ n ih =>
    intro e r a acc
    have hb : Nat.shiftRight (2 ^ (n + 1 + e)) 1 = 2 ^ (n + e) := by
      rw [show n + 1 + e = n + e + 1 by omega]; simp [Nat.shiftRight_eq_div_pow, Nat.pow_succ]
    have ha : acc + 2 ^ (n + 1 + e + 1) * a + 2 ^ (n + 1 + e) * (log2Step r).2
        = acc + 2 ^ (n + e + 1) * (a + a + (log2Step r).2) := by
      rw [show n + 1 + e = n + e + 1 by omega, Nat.pow_succ 2 (n + e + 1),
        Nat.mul_assoc, Nat.two_mul, Nat.add_assoc, ← Nat.mul_add]
    rw [log2Iter_succ, hb, ha, ih]
    rfl

theorem log2U_eq (r : Nat) : log2U r = Nat.shiftRight (log2Iter 14 r 9223372036854775808 0) 32 := by
  have h := log2Iter_bits 14 49 r 0 0
  simp only [Nat.mul_zero, Nat.add_zero, Nat.zero_add] at h
  rw [show (9223372036854775808 : Nat) = 2 ^ (14 + 49) by decide, h, log2U_eq_bits]
  show log2Bits 14 r 0 <<< 18 = (2 ^ (49 + 1) * log2Bits 14 r 0) >>> 32
  rw [Nat.shiftRight_eq_div_pow, Nat.shiftLeft_eq]
  omega

theorem log2_of_shiftRight {p m : Nat} (h : Nat.shiftRight p m = 1) : p ≠ 0 ∧ Nat.log2 p = m := by
  have h1 : p / 2 ^ m = 1 := by simpa [Nat.shiftRight_eq_div_pow] using h
  have hpos : 0 < 2 ^ m := Nat.two_pow_pos m
  have lo : 2 ^ m ≤ p := by
    by_contra hc
    rw [Nat.div_eq_of_lt (by omega)] at h1; omega
  have hi : p < 2 ^ (m + 1) := by
    rw [Nat.pow_succ]
    have := Nat.lt_mul_div_succ p hpos
    rw [h1] at this; omega
  have hp : p ≠ 0 := by omega
  exact ⟨hp, (Nat.log2_eq_iff hp).mpr ⟨lo, hi⟩⟩

theorem invOk_spec (tn p : Nat) (h : invOk tn p = true) :
    tickLow p = (tn : Int) - 443636 - 1 ∧ tickHigh p = (tn : Int) - 443636 := by
  unfold invOk at h
  extract_lets base lo e msb r y at h
  simp only [Bool.and_eq_true, Nat.ble_eq, Nat.blt_eq] at h
  obtain ⟨hm, h1, h2⟩ := h
  obtain ⟨_, hlog⟩ := log2_of_shiftRight (Nat.eq_of_beq_eq_true hm)
  have hr : r = normMantissa p := by unfold normMantissa; rw [hlog]; rfl
  have hx : log2pX32 p = ((msb * 4294967296 + log2U r : Nat) : Int) - 274877906944 := by
    unfold log2pX32
    simp only [bitprec_eq, hlog, hr, log2U_eq]
    push_cast
    omega
  have hk := K_OFF_eq
  unfold tickLow tickHigh logbpX64 sar64
  rw [margin_lo_eq, margin_hi_eq, logb_eq, hx] at *
  have hK : (15793534762490258745 : Nat) ≤ tn * 18446744073709551616 + K_OFF := by
    unfold K_OFF; omega
  simp only [y, lo, base, Nat.mul_eq, Nat.add_eq, Nat.sub_eq] at h1 h2
  zify [hK] at h1 h2
  constructor <;> omega

theorem land_two_pow (t i : Nat) : Nat.beq (Nat.land t (2 ^ i)) 0 = decide (t / 2 ^ i % 2 = 0) := by
  show Nat.beq (t &&& 2 ^ i) 0 = _
  have e : t &&& 2 ^ i = 2 ^ i * (t / 2 ^ i % 2) := by
    apply Nat.eq_of_testBit_eq
    intro j
    rw [Nat.testBit_and, Nat.testBit_two_pow]
    rcases Nat.mod_two_eq_zero_or_one (t / 2 ^ i) with h | h
    · have : t.testBit i = false := by simp [Nat.testBit_eq_decide_div_mod_eq, h]
      by_cases hij : i = j
      · subst hij; simp [h, this]
      · simp [h, hij]
    · have : t.testBit i = true := by simp [Nat.testBit_eq_decide_div_mod_eq, h]
      by_cases hij : i = j
      · subst hij; simp [h, this, Nat.testBit_two_pow_self]
      · simp [h, hij, Nat.testBit_two_pow_of_ne hij]
  have hpos : 0 < 2 ^ i := Nat.two_pow_pos i
  rcases Nat.mod_two_eq_zero_or_one (t / 2 ^ i) with h | h
  · simp [e, h]
  · rw [e, h, Nat.mul_one]
    cases hb : Nat.beq (2 ^ i) 0
    · simp
    · exact absurd (Nat.eq_of_beq_eq_true hb) (Nat.ne_of_gt hpos)

theorem rung_bit (s t i r c : Nat) :
    cond (Nat.beq (Nat.land t (2 ^ i)) 0) r (Nat.shiftRight (Nat.mul r c) s)
      = if t / 2 ^ i % 2 = 1 then rung s r c else r := by
  rw [land_two_pow]
  rcases Nat.mod_two_eq_zero_or_one (t / 2 ^ i) with h | h <;> simp [h, rung]

/-- the ladder as the model writes it: one mask per rung -/
def climbMask (s : Nat) : List Nat → Nat → Nat → Nat → Nat
  | [], _, _, r => r
  | c :: cs, m, t, r => climbMask s cs (2 * m) t (cond (Nat.beq (Nat.land t m) 0) r (Nat.shiftRight (Nat.mul r c) s))

theorem climbMask_eq (s t : Nat) : ∀ (cs : List Nat) (i r : Nat),
    climbMask s cs (2 ^ i) t r = climb s cs (t / 2 ^ i) r := by
  intro cs
  induction cs with
  | nil => intro i r; rfl
  | cons c cs ih =>
    intro i r
    rw [climbMask, climb, rung_bit, Nat.mul_comm, ← Nat.pow_succ, ih, Nat.div_div_eq_div_mul, ← Nat.pow_succ]

/-- the first rung chooses between two constants; it is a rung like the others, started from one -/
theorem climbMask_first (s t odd : Nat) (cs : List Nat) (h : Nat.shiftRight (Nat.mul (2 ^ s) odd) s = odd) :
    climbMask s cs 2 t (cond (Nat.beq (Nat.land t 1) 0) (2 ^ s) odd) = climb s (odd :: cs) t (2 ^ s) := by
  have := climbMask_eq s t (odd :: cs) 0 (2 ^ s)
  rw [climbMask, h, Nat.pow_zero, Nat.div_one] at this
  exact this

theorem spNeg_eq_climb (n : Nat) : spNeg n = climb 64 negLadder n (2 ^ 64) :=
  climbMask_first 64 n NEG_ODD negLadder.tail (by decide)

theorem spPosRaw_eq_climb (n : Nat) : spPosRaw n = climb 96 posLadder n (2 ^ 96) :=
  climbMask_first 96 n POS_ODD posLadder.tail (by decide)

end WP.C09
