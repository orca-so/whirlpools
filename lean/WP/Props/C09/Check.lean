import WP.Model.TickMath
/-
  C09: the checks the kernel evaluates at every tick, and why they may be evaluated the way they are.

  `sp` runs one ladder of 19 multiply-and-shift rungs, lowest bit of the tick first, so ticks that
  agree in their low bits share a prefix of the computation.  `walk` therefore visits the ticks as a
  binary tree over their bits (two rungs per tick instead of 19) and carries the pair `n`, `n + 1`
  together, since every fact needed relates the prices of neighbouring ticks.
  No Mathlib.  Kernel-friendly style throughout (Nat.mul / Nat.shiftRight / cond …).
-/
namespace WP.C09
open WP WP.Gen

/-- forward facts about consecutive tick prices `p = sp t`, `q = sp (t+1)`: strictly increasing,
    and (q/p)^2 = 1.0001 to within 2^-32 relative error on q/p -/
def stepOk (p q : Nat) : Bool :=
  Nat.blt p q
  && Nat.ble (Nat.mul (Nat.pow (Nat.mul p 4294967295) 2) 10001) (Nat.mul (Nat.pow (Nat.mul q 4294967296) 2) 10000)
  && Nat.ble (Nat.mul (Nat.pow (Nat.mul q 4294967296) 2) 10000) (Nat.mul (Nat.pow (Nat.mul p 4294967297) 2) 10001)

/-- `n` iterations of the log2 loop, the bits collected in `a` (most significant first) -/
def log2Bits : Nat → Nat → Nat → Nat
  | 0, _, a => a
  | n + 1, r, a =>
    let q := Nat.mul r r; let m := Nat.shiftRight q 127
    log2Bits n (Nat.shiftRight q (Nat.add 63 m)) (Nat.add (Nat.add a a) m)

/-- `log2Bits 14 r 0 <<< 18`, i.e. `log2p_fraction_x64 >> 32`, written out: the kernel evaluates the
    unrolled form in far fewer steps than the recursive one -/
def log2U (r : Nat) : Nat :=
  let q := Nat.mul r r; let m := Nat.shiftRight q 127; let r := Nat.shiftRight q (Nat.add 63 m); let a := Nat.add (Nat.add 0 0) m
  let q := Nat.mul r r; let m := Nat.shiftRight q 127; let r := Nat.shiftRight q (Nat.add 63 m); let a := Nat.add (Nat.add a a) m
  let q := Nat.mul r r; let m := Nat.shiftRight q 127; let r := Nat.shiftRight q (Nat.add 63 m); let a := Nat.add (Nat.add a a) m
  let q := Nat.mul r r; let m := Nat.shiftRight q 127; let r := Nat.shiftRight q (Nat.add 63 m); let a := Nat.add (Nat.add a a) m
  let q := Nat.mul r r; let m := Nat.shiftRight q 127; let r := Nat.shiftRight q (Nat.add 63 m); let a := Nat.add (Nat.add a a) m
  let q := Nat.mul r r; let m := Nat.shiftRight q 127; let r := Nat.shiftRight q (Nat.add 63 m); let a := Nat.add (Nat.add a a) m
  let q := Nat.mul r r; let m := Nat.shiftRight q 127; let r := Nat.shiftRight q (Nat.add 63 m); let a := Nat.add (Nat.add a a) m
  let q := Nat.mul r r; let m := Nat.shiftRight q 127; let r := Nat.shiftRight q (Nat.add 63 m); let a := Nat.add (Nat.add a a) m
  let q := Nat.mul r r; let m := Nat.shiftRight q 127; let r := Nat.shiftRight q (Nat.add 63 m); let a := Nat.add (Nat.add a a) m
  let q := Nat.mul r r; let m := Nat.shiftRight q 127; let r := Nat.shiftRight q (Nat.add 63 m); let a := Nat.add (Nat.add a a) m
  let q := Nat.mul r r; let m := Nat.shiftRight q 127; let r := Nat.shiftRight q (Nat.add 63 m); let a := Nat.add (Nat.add a a) m
  let q := Nat.mul r r; let m := Nat.shiftRight q 127; let r := Nat.shiftRight q (Nat.add 63 m); let a := Nat.add (Nat.add a a) m
  let q := Nat.mul r r; let m := Nat.shiftRight q 127; let r := Nat.shiftRight q (Nat.add 63 m); let a := Nat.add (Nat.add a a) m
  let q := Nat.mul r r; let m := Nat.shiftRight q 127
  Nat.shiftLeft (Nat.add (Nat.add a a) m) 18

theorem log2U_eq_bits (r : Nat) : log2U r = Nat.shiftLeft (log2Bits 14 r 0) 18 := rfl

/-- `2^38 · LOG_B_2_X32 − 443636 · 2^64` -/
def K_OFF : Nat := 8183653622090342477070336

theorem K_OFF_eq : (K_OFF : Int) = 274877906944 * LOG_B_2_X32 - 443636 * 18446744073709551616 := by decide
theorem margins_lt : LOG_B_P_ERR_MARGIN_LOWER_X64 + LOG_B_P_ERR_MARGIN_UPPER_X64 < 18446744073709551616 := by decide
theorem margin_lo_eq : LOG_B_P_ERR_MARGIN_LOWER_X64 = 184467440737095516 := by decide
theorem margin_hi_eq : LOG_B_P_ERR_MARGIN_UPPER_X64 = 15793534762490258745 := by decide
theorem logb_eq : LOG_B_2_X32 = 59543866431248 := by decide
theorem bitprec_eq : BIT_PRECISION = 14 := by decide

/-- `tickLow p = t − 1 ∧ tickHigh p = t` for `tn = t + 443636`, as one natural-number comparison
    `t·2^64 − U ≤ logbp < t·2^64 + L` on `y = (log2p_x32 + 64·2^32) · LOG_B_2_X32`.
    `Nat.log2 p` is not computed (the kernel would unfold it bit by bit) but read off the lower bound:
    if the comparison is to hold it is `e` or `e + 1`, and `p >>> msb = 1` confirms the choice. -/
def invOk (tn p : Nat) : Bool :=
  let base := Nat.add (Nat.mul tn 18446744073709551616) K_OFF
  let lo := Nat.sub base 15793534762490258745
  let e := Nat.shiftRight (Nat.div lo 59543866431248) 32
  let msb := cond (Nat.beq (Nat.shiftRight p e) 1) e (Nat.succ e)
  let r := cond (Nat.ble 64 msb) (Nat.shiftRight p (Nat.sub msb 63)) (Nat.shiftLeft p (Nat.sub 63 msb))
  let y := Nat.mul (Nat.add (Nat.mul msb 4294967296) (log2U r)) 59543866431248
  Nat.beq (Nat.shiftRight p msb) 1 && (Nat.ble lo y && Nat.blt y (Nat.add base 184467440737095516))

/-- `ratio = (ratio * c) >> s` -/
@[inline] def rung (s r c : Nat) : Nat := Nat.shiftRight (Nat.mul r c) s

/-- the ladder `cs` climbed from `r` along the bits of `h`, lowest first -/
def climb (s : Nat) : List Nat → Nat → Nat → Nat
  | [], _, r => r
  | c :: cs, h, r => climb s cs (h / 2) (if h % 2 = 1 then rung s r c else r)

/-- Visit every `n = l + m·h ≤ lim`, `h < 2^|cs|`, and evaluate `leaf n x y` where `x`, `y` are `cs` climbed
    along `h` from `r` and along `h + 1` (`h` if `k = false`) from `r1`: so if `r`, `r1` are the ladder
    climbed along the low bits `l` of `n` and of `n + 1`, and `k` says whether that increment carried out
    of them, then `x`, `y` are the whole ladder at `n` and at `n + 1`.
    Only the kernel ever runs this, hence `List.rec`: it then takes one recursor step per node, where the
    compiled form of a definition by pattern matching costs it several (`walk_nil`, `walk_cons` are the
    equations). -/
noncomputable def walk (s lim : Nat) (leaf : Nat → Nat → Nat → Bool) (cs : List Nat) :
    Nat → Nat → Nat → Nat → Bool → Bool :=
  cs.rec (fun _ l r r1 _ => leaf l r r1) fun c _ walk_cs m l r r1 k =>
    walk_cs (Nat.mul m 2) l r (cond k (rung s r1 c) r1) false &&
    cond (Nat.ble (Nat.add l m) lim)
      (walk_cs (Nat.mul m 2) (Nat.add l m) (rung s r c) (cond k r1 (rung s r1 c)) k) true

theorem walk_nil (s lim : Nat) (leaf : Nat → Nat → Nat → Bool) (m l r r1 : Nat) (k : Bool) :
    walk s lim leaf [] m l r r1 k = leaf l r r1 := rfl

theorem walk_cons (s lim : Nat) (leaf : Nat → Nat → Nat → Bool) (c : Nat) (cs : List Nat) (m l r r1 : Nat) (k : Bool) :
    walk s lim leaf (c :: cs) m l r r1 k =
      (walk s lim leaf cs (m * 2) l r (cond k (rung s r1 c) r1) false &&
       cond (Nat.ble (l + m) lim)
        (walk s lim leaf cs (m * 2) (l + m) (rung s r c) (cond k r1 (rung s r1 c)) k) true) := rfl

theorem walk_sound (s lim : Nat) (leaf : Nat → Nat → Nat → Bool) :
    ∀ (cs : List Nat) (m l r r1 : Nat) (k : Bool), walk s lim leaf cs m l r r1 k = true →
      ∀ h, h < 2 ^ cs.length → l + m * h ≤ lim →
        leaf (l + m * h) (climb s cs h r) (climb s cs (h + cond k 1 0) r1) = true := by
  intro cs
  induction cs with
  | nil =>
    intro m l r r1 k hw h hh _
    have : h = 0 := by simpa using hh
    subst this
    simpa [walk_nil, climb] using hw
  | cons c cs ih =>
    intro m l r r1 k hw h hh hle
    rw [walk_cons, Bool.and_eq_true] at hw
    have hh' : h / 2 < 2 ^ cs.length := by
      rw [List.length_cons, Nat.pow_succ] at hh; omega
    have hm : m * h = m * 2 * (h / 2) + m * (h % 2) := by
      rw [Nat.mul_assoc, ← Nat.mul_add, Nat.div_add_mod]
    rcases Nat.mod_two_eq_zero_or_one h with hb | hb
    · -- `n` has this bit clear; `n + 1` has it set exactly if the carry arrives
      have := ih (m * 2) l r _ false hw.1 (h / 2) hh' (by rw [hm, hb] at hle; omega)
      rw [hm, hb]
      cases k
      · simpa [climb, hb] using this
      · have e1 : (h + 1) / 2 = h / 2 := by omega
        have e2 : (h + 1) % 2 = 1 := by omega
        simpa [climb, hb, e1, e2] using this
    · -- `n` has this bit set; a carry passes through it
      have hlm : l + m ≤ lim := by rw [hm, hb] at hle; omega
      have hw2 := hw.2
      rw [Nat.ble_eq_true_of_le hlm, cond_true] at hw2
      have := ih (m * 2) (l + m) _ _ k hw2 (h / 2) hh' (by rw [hm, hb] at hle; omega)
      rw [hm, hb, Nat.mul_one, ← Nat.add_assoc, Nat.add_right_comm l _ m]
      cases k
      · simpa [climb, hb] using this
      · have e1 : (h + 1) / 2 = h / 2 + 1 := by omega
        have e2 : (h + 1) % 2 = 0 := by omega
        simpa [climb, hb, e1, e2] using this

theorem climb_zero (s : Nat) : ∀ (cs : List Nat) (r : Nat), climb s cs 0 r = r := by
  intro cs
  induction cs with
  | nil => intro r; rfl
  | cons c cs ih => intro r; simpa [climb] using ih r

theorem climb_append (s : Nat) : ∀ (a b : List Nat) (l h r : Nat), l < 2 ^ a.length →
    climb s (a ++ b) (l + 2 ^ a.length * h) r = climb s b h (climb s a l r) := by
  intro a
  induction a with
  | nil =>
    intro b l h r hl
    have : l = 0 := by simpa using hl
    subst this; simp [climb]
  | cons c a ih =>
    intro b l h r hl
    rw [List.length_cons, Nat.pow_succ] at hl ⊢
    have e : 2 ^ a.length * 2 * h = 2 * (2 ^ a.length * h) := by rw [Nat.mul_right_comm, Nat.mul_comm]
    have e1 : (l + 2 ^ a.length * 2 * h) / 2 = l / 2 + 2 ^ a.length * h := by omega
    have e2 : (l + 2 ^ a.length * 2 * h) % 2 = l % 2 := by omega
    simp only [List.cons_append, climb, e1, e2]
    exact ih b (l / 2) h _ (by omega)

/-- the ticks `n ≡ l (mod 2^j)`: the walk entered at depth `j` -/
noncomputable def sweep (s lim : Nat) (leaf : Nat → Nat → Nat → Bool) (ladder : List Nat) (j l : Nat) : Bool :=
  walk s lim leaf (ladder.drop j) (Nat.pow 2 j) l (climb s (ladder.take j) l (Nat.pow 2 s))
    (climb s (ladder.take j) (Nat.succ l) (Nat.pow 2 s)) (Nat.beq (Nat.succ l) (Nat.pow 2 j))

theorem sweep_sound (s lim : Nat) (leaf : Nat → Nat → Nat → Bool) (ladder : List Nat) (j : Nat)
    (hj : j ≤ ladder.length) (hs : ∀ l < 2 ^ j, sweep s lim leaf ladder j l = true)
    (n : Nat) (hn : n ≤ lim) (hlen : n < 2 ^ ladder.length) :
    leaf n (climb s ladder n (2 ^ s)) (climb s ladder (n + 1) (2 ^ s)) = true := by
  have hP : 0 < 2 ^ j := Nat.two_pow_pos j
  have hta : (ladder.take j).length = j := by simp [hj]
  have split : ∀ l h r, l < 2 ^ j →
      climb s ladder (l + 2 ^ j * h) r = climb s (ladder.drop j) h (climb s (ladder.take j) l r) := by
    intro l h r hl
    have := climb_append s (ladder.take j) (ladder.drop j) l h r (by rwa [hta])
    rwa [hta, List.take_append_drop] at this
  obtain ⟨l, q, hl, rfl⟩ : ∃ l q, l < 2 ^ j ∧ n = l + 2 ^ j * q :=
    ⟨n % 2 ^ j, n / 2 ^ j, Nat.mod_lt _ hP, (Nat.mod_add_div n (2 ^ j)).symm⟩
  have hq : q < 2 ^ (ladder.drop j).length := by
    rw [List.length_drop]
    have : 2 ^ j * q < 2 ^ j * 2 ^ (ladder.length - j) := by
      rw [← Nat.pow_add, Nat.add_sub_cancel' hj]; omega
    exact Nat.lt_of_mul_lt_mul_left this
  have hw := walk_sound s lim leaf _ _ _ _ _ _ (hs l hl) q hq hn
  simp only [Nat.pow_eq, Nat.succ_eq_add_one] at hw
  rw [split l q _ hl]
  by_cases hc : l + 1 = 2 ^ j
  · -- the increment carries out of the low bits, which become zero
    have z : climb s (ladder.take j) (2 ^ j) (2 ^ s) = 2 ^ s := by
      have := climb_append s (ladder.take j) [] 0 1 (2 ^ s) (by rw [hta]; exact hP)
      simpa [hta, climb, climb_zero] using this
    have e : l + 2 ^ j * q + 1 = 0 + 2 ^ j * (q + 1) := by rw [Nat.mul_succ]; omega
    rw [e, split 0 _ _ hP, climb_zero]
    simpa [hc, z] using hw
  · have e : l + 2 ^ j * q + 1 = (l + 1) + 2 ^ j * q := by omega
    have hb : Nat.beq (l + 1) (2 ^ j) = false := by
      cases h : Nat.beq (l + 1) (2 ^ j)
      · rfl
      · exact absurd (Nat.eq_of_beq_eq_true h) hc
    rw [e, split _ _ _ (by omega)]
    simpa [hb] using hw

def negLadder : List Nat := [NEG_ODD, NEG_1, NEG_2, NEG_3, NEG_4, NEG_5, NEG_6, NEG_7, NEG_8, NEG_9, NEG_10,
  NEG_11, NEG_12, NEG_13, NEG_14, NEG_15, NEG_16, NEG_17, NEG_18]

def posLadder : List Nat := [POS_ODD, POS_1, POS_2, POS_3, POS_4, POS_5, POS_6, POS_7, POS_8, POS_9, POS_10,
  POS_11, POS_12, POS_13, POS_14, POS_15, POS_16, POS_17, POS_18]

/-- at `n`: `x = sp (-n)`, `y = sp (-n - 1)` -/
def leafNeg (n x y : Nat) : Bool := stepOk y x && invOk (Nat.sub 443636 n) x

/-- at `n`: `x >>> 32 = sp n`, `y >>> 32 = sp (n + 1)` -/
def leafPos (n x y : Nat) : Bool :=
  let q := Nat.shiftRight y 32
  stepOk (Nat.shiftRight x 32) q && invOk (Nat.add n 443637) q

/-- the ticks `-n - 1`, `-n` for `n ≡ l (mod 16)`, `n < 443636` -/
noncomputable def sweepNeg (l : Nat) : Bool := sweep 64 443635 leafNeg negLadder 4 l

/-- the ticks `n`, `n + 1` for `n ≡ l (mod 16)`, `n < 443636` -/
noncomputable def sweepPos (l : Nat) : Bool := sweep 96 443635 leafPos posLadder 4 l

end WP.C09
