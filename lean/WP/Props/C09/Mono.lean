import WP.Props.C09.Check
import Mathlib.Tactic.Linarith
import Mathlib.Tactic.Positivity
import Mathlib.Algebra.Order.Ring.Nat
/-
  C09: the 14-bit log2 approximation of `tick_index_from_sqrt_price` is monotone in the price
  (lexicographic induction over the squaring steps), hence so are tick_low and tick_high.
-/
namespace WP.C09
open WP WP.Gen

theorem log2Iter_succ (n r bit acc : Nat) :
    log2Iter (n+1) r bit acc = log2Iter n (log2Step r).1 (Nat.shiftRight bit 1) (acc + bit * (log2Step r).2) := rfl

theorem log2Step_snd (r : Nat) : (log2Step r).2 = r * r / 2 ^ 127 := by
  simp [log2Step, Nat.shiftRight_eq_div_pow]

theorem log2Step_fst (r : Nat) : (log2Step r).1 = r * r / 2 ^ (63 + r * r / 2 ^ 127) := by
  simp [log2Step, Nat.shiftRight_eq_div_pow]

theorem log2Step_bit_le (r : Nat) (h : r < 2 ^ 64) : (log2Step r).2 ≤ 1 := by
  rw [log2Step_snd]
  have : r * r < 2 ^ 128 := by nlinarith
  have : r * r / 2 ^ 127 < 2 := by
    rw [Nat.div_lt_iff_lt_mul (by positivity)]; norm_num at *; omega
  omega

theorem log2Step_lt (r : Nat) (h : r < 2 ^ 64) : (log2Step r).1 < 2 ^ 64 := by
  have hb := log2Step_bit_le r h
  rw [log2Step_snd] at hb
  rw [log2Step_fst]
  have hq : r * r < 2 ^ 128 := by nlinarith
  rcases Nat.le_one_iff_eq_zero_or_eq_one.mp hb with h0 | h1
  · rw [h0]
    have : r * r < 2 ^ 127 := by
      have := (Nat.div_eq_zero_iff).mp h0
      rcases this with h' | h'
      · norm_num at h'
      · exact h'
    rw [Nat.div_lt_iff_lt_mul (by positivity)]; norm_num at *; omega
  · rw [h1]
    rw [Nat.div_lt_iff_lt_mul (by positivity)]; norm_num at *; omega

theorem log2Step_mono (r1 r2 : Nat) (h : r1 ≤ r2) :
    (log2Step r1).2 ≤ (log2Step r2).2 ∧ ((log2Step r1).2 = (log2Step r2).2 → (log2Step r1).1 ≤ (log2Step r2).1) := by
  have hq : r1 * r1 ≤ r2 * r2 := Nat.mul_le_mul h h
  rw [log2Step_snd, log2Step_snd, log2Step_fst, log2Step_fst]
  constructor
  · exact Nat.div_le_div_right hq
  · intro e
    rw [e]
    exact Nat.div_le_div_right hq

theorem log2Iter_acc : ∀ (n r b acc : Nat), log2Iter n r b acc = acc + log2Iter n r b 0 := by
  intro n
  induction n with
  | zero => intro r b acc; simp [log2Iter]
  | succ n ih =>
    intro r b acc
    rw [log2Iter_succ, log2Iter_succ, ih _ _ (acc + _), ih _ _ (0 + _)]
    omega

theorem log2Iter_le : ∀ (n r b : Nat), r < 2 ^ 64 → log2Iter n r b 0 ≤ 2 * b := by
  intro n
  induction n with
  | zero => intro r b _; simp [log2Iter]
  | succ n ih =>
    intro r b hr
    rw [log2Iter_succ, log2Iter_acc]
    have h1 := ih (log2Step r).1 (Nat.shiftRight b 1) (log2Step_lt r hr)
    have h2 := log2Step_bit_le r hr
    have h3 : Nat.shiftRight b 1 = b / 2 := by simp [Nat.shiftRight_eq_div_pow]
    rw [h3] at h1 ⊢
    have : b * (log2Step r).2 ≤ b := by nlinarith
    omega

theorem log2Iter_mono : ∀ (n r1 r2 b : Nat), r1 ≤ r2 → r2 < 2 ^ 64 →
    log2Iter n r1 b 0 ≤ log2Iter n r2 b 0 := by
  intro n
  induction n with
  | zero => intro r1 r2 b _ _; simp [log2Iter]
  | succ n ih =>
    intro r1 r2 b h hr2
    have hr1 : r1 < 2 ^ 64 := lt_of_le_of_lt h hr2
    rw [log2Iter_succ, log2Iter_succ, log2Iter_acc, log2Iter_acc _ _ _ (0 + _)]
    obtain ⟨hm, hr⟩ := log2Step_mono r1 r2 h
    have hb1 := log2Step_bit_le r1 hr1
    have hb2 := log2Step_bit_le r2 hr2
    have h3 : Nat.shiftRight b 1 = b / 2 := by simp [Nat.shiftRight_eq_div_pow]
    by_cases e : (log2Step r1).2 = (log2Step r2).2
    · have := ih (log2Step r1).1 (log2Step r2).1 (Nat.shiftRight b 1) (hr e) (log2Step_lt r2 hr2)
      rw [e]; omega
    · have h0 : (log2Step r1).2 = 0 := by omega
      have h1 : (log2Step r2).2 = 1 := by omega
      have := log2Iter_le n (log2Step r1).1 (Nat.shiftRight b 1) (log2Step_lt r1 hr1)
      rw [h0, h1, h3] at *
      omega

theorem normMantissa_eq (p : Nat) :
    normMantissa p = if 64 ≤ Nat.log2 p then p / 2 ^ (Nat.log2 p - 63) else p * 2 ^ (63 - Nat.log2 p) := by
  unfold normMantissa
  by_cases h : 64 ≤ Nat.log2 p
  · have hb : Nat.ble 64 (Nat.log2 p) = true := Nat.ble_eq_true_of_le h
    simp [h, hb, Nat.shiftRight_eq_div_pow]
  · have hb : Nat.ble 64 (Nat.log2 p) = false := by
      cases hh : Nat.ble 64 (Nat.log2 p) with
      | false => rfl
      | true => exact absurd (Nat.le_of_ble_eq_true hh) h
    simp [h, hb, Nat.shiftLeft_eq]

theorem normMantissa_lt (p : Nat) (hp : p ≠ 0) : normMantissa p < 2 ^ 64 := by
  rw [normMantissa_eq]
  have hlt : p < 2 ^ (Nat.log2 p + 1) := Nat.lt_log2_self
  split
  · rename_i h
    rw [Nat.div_lt_iff_lt_mul (by positivity), ← pow_add]
    have : 64 + (Nat.log2 p - 63) = Nat.log2 p + 1 := by omega
    rw [this]; exact hlt
  · rename_i h
    have : p * 2 ^ (63 - Nat.log2 p) < 2 ^ (Nat.log2 p + 1) * 2 ^ (63 - Nat.log2 p) :=
      Nat.mul_lt_mul_of_pos_right hlt (by positivity)
    rw [← pow_add] at this
    have e : Nat.log2 p + 1 + (63 - Nat.log2 p) = 64 := by omega
    rw [e] at this; exact this

theorem normMantissa_mono (p1 p2 : Nat) (h : p1 ≤ p2) (e : Nat.log2 p1 = Nat.log2 p2) :
    normMantissa p1 ≤ normMantissa p2 := by
  rw [normMantissa_eq, normMantissa_eq, e]
  split
  · exact Nat.div_le_div_right h
  · exact Nat.mul_le_mul_right _ h

theorem log2_mono (p1 p2 : Nat) (hp : p1 ≠ 0) (h : p1 ≤ p2) : Nat.log2 p1 ≤ Nat.log2 p2 := by
  have hp2 : p2 ≠ 0 := by omega
  by_contra hc
  have hc : Nat.log2 p2 < Nat.log2 p1 := by omega
  have h1 : p2 < 2 ^ Nat.log2 p1 := (Nat.log2_lt hp2).mp hc
  have h2 : 2 ^ Nat.log2 p1 ≤ p1 := Nat.log2_self_le hp
  omega

theorem frac_le (p : Nat) (hp : p ≠ 0) :
    Nat.shiftRight (log2Iter BIT_PRECISION (normMantissa p) 9223372036854775808 0) 32 ≤ 4294967296 := by
  have := log2Iter_le BIT_PRECISION (normMantissa p) 9223372036854775808 (normMantissa_lt p hp)
  simp only [Nat.shiftRight_eq', Nat.shiftRight_eq_div_pow]
  omega

theorem log2pX32_mono (p1 p2 : Nat) (hp : p1 ≠ 0) (h : p1 ≤ p2) : log2pX32 p1 ≤ log2pX32 p2 := by
  have hp2 : p2 ≠ 0 := by omega
  have hl := log2_mono p1 p2 hp h
  unfold log2pX32
  simp only []
  rcases Nat.lt_or_eq_of_le hl with hlt | heq
  · have f1 := frac_le p1 hp
    have : (Nat.log2 p1 : Int) + 1 ≤ Nat.log2 p2 := by exact_mod_cast hlt
    have f1' : ((Nat.shiftRight (log2Iter BIT_PRECISION (normMantissa p1) 9223372036854775808 0) 32 : Nat) : Int) ≤ 4294967296 := by
      exact_mod_cast f1
    have f2 : (0 : Int) ≤ ((Nat.shiftRight (log2Iter BIT_PRECISION (normMantissa p2) 9223372036854775808 0) 32 : Nat) : Int) :=
      Int.natCast_nonneg _
    nlinarith
  · have hm := log2Iter_mono BIT_PRECISION _ _ 9223372036854775808 (normMantissa_mono p1 p2 h heq) (normMantissa_lt p2 hp2)
    have : Nat.shiftRight (log2Iter BIT_PRECISION (normMantissa p1) 9223372036854775808 0) 32
        ≤ Nat.shiftRight (log2Iter BIT_PRECISION (normMantissa p2) 9223372036854775808 0) 32 := by
      simp only [Nat.shiftRight_eq', Nat.shiftRight_eq_div_pow]
      exact Nat.div_le_div_right hm
    rw [heq]
    have : ((Nat.shiftRight (log2Iter BIT_PRECISION (normMantissa p1) 9223372036854775808 0) 32 : Nat) : Int)
        ≤ ((Nat.shiftRight (log2Iter BIT_PRECISION (normMantissa p2) 9223372036854775808 0) 32 : Nat) : Int) := by
      exact_mod_cast this
    omega

theorem logbpX64_mono (p1 p2 : Nat) (hp : p1 ≠ 0) (h : p1 ≤ p2) : logbpX64 p1 ≤ logbpX64 p2 := by
  unfold logbpX64
  have := log2pX32_mono p1 p2 hp h
  rw [logb_eq]
  nlinarith

theorem sar64_mono (x y : Int) (h : x ≤ y) : sar64 x ≤ sar64 y := by
  unfold sar64
  omega

theorem tickLow_mono (p1 p2 : Nat) (hp : p1 ≠ 0) (h : p1 ≤ p2) : tickLow p1 ≤ tickLow p2 := by
  unfold tickLow
  exact sar64_mono _ _ (by have := logbpX64_mono p1 p2 hp h; omega)

theorem tickHigh_mono (p1 p2 : Nat) (hp : p1 ≠ 0) (h : p1 ≤ p2) : tickHigh p1 ≤ tickHigh p2 := by
  unfold tickHigh
  exact sar64_mono _ _ (by have := logbpX64_mono p1 p2 hp h; omega)

/-- the window: tick_high − tick_low ≤ 1 because the margins sum to less than 2^64 -/
theorem tick_window (p : Nat) : tickLow p ≤ tickHigh p ∧ tickHigh p ≤ tickLow p + 1 := by
  unfold tickLow tickHigh sar64
  rw [margin_lo_eq, margin_hi_eq]
  omega

end WP.C09
