import WP.Props.C09.Check
namespace WP.C09

theorem sweepNeg_0 : sweepNeg 0 = true := by decide +kernel
theorem sweepNeg_1 : sweepNeg 1 = true := by decide +kernel
theorem sweepNeg_2 : sweepNeg 2 = true := by decide +kernel
theorem sweepNeg_3 : sweepNeg 3 = true := by decide +kernel

end WP.C09
