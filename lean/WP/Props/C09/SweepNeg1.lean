import WP.Props.C09.Check
namespace WP.C09

theorem sweepNeg_4 : sweepNeg 4 = true := by decide +kernel
theorem sweepNeg_5 : sweepNeg 5 = true := by decide +kernel
theorem sweepNeg_6 : sweepNeg 6 = true := by decide +kernel
theorem sweepNeg_7 : sweepNeg 7 = true := by decide +kernel

end WP.C09
