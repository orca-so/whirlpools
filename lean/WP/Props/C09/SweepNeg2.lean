import WP.Props.C09.Check
namespace WP.C09

theorem sweepNeg_8 : sweepNeg 8 = true := by decide +kernel
theorem sweepNeg_9 : sweepNeg 9 = true := by decide +kernel
theorem sweepNeg_10 : sweepNeg 10 = true := by decide +kernel
theorem sweepNeg_11 : sweepNeg 11 = true := by decide +kernel

end WP.C09
