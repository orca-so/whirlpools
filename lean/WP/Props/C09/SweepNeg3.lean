import WP.Props.C09.Check
namespace WP.C09

theorem sweepNeg_12 : sweepNeg 12 = true := by decide +kernel
theorem sweepNeg_13 : sweepNeg 13 = true := by decide +kernel
theorem sweepNeg_14 : sweepNeg 14 = true := by decide +kernel
theorem sweepNeg_15 : sweepNeg 15 = true := by decide +kernel

end WP.C09
