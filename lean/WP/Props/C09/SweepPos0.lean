import WP.Props.C09.Check
namespace WP.C09

theorem sweepPos_0 : sweepPos 0 = true := by decide +kernel
theorem sweepPos_1 : sweepPos 1 = true := by decide +kernel
theorem sweepPos_2 : sweepPos 2 = true := by decide +kernel
theorem sweepPos_3 : sweepPos 3 = true := by decide +kernel

end WP.C09
