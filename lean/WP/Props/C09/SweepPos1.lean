import WP.Props.C09.Check
namespace WP.C09

theorem sweepPos_4 : sweepPos 4 = true := by decide +kernel
theorem sweepPos_5 : sweepPos 5 = true := by decide +kernel
theorem sweepPos_6 : sweepPos 6 = true := by decide +kernel
theorem sweepPos_7 : sweepPos 7 = true := by decide +kernel

end WP.C09
