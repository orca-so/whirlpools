import WP.Props.C09.Check
namespace WP.C09

theorem sweepPos_8 : sweepPos 8 = true := by decide +kernel
theorem sweepPos_9 : sweepPos 9 = true := by decide +kernel
theorem sweepPos_10 : sweepPos 10 = true := by decide +kernel
theorem sweepPos_11 : sweepPos 11 = true := by decide +kernel

end WP.C09
