import WP.Props.C09.Check
namespace WP.C09

theorem sweepPos_12 : sweepPos 12 = true := by decide +kernel
theorem sweepPos_13 : sweepPos 13 = true := by decide +kernel
theorem sweepPos_14 : sweepPos 14 = true := by decide +kernel
theorem sweepPos_15 : sweepPos 15 = true := by decide +kernel

end WP.C09
