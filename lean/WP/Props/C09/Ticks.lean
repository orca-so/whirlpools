import WP.Props.C09.Bridge
import WP.Props.C09.SweepNeg0
import WP.Props.C09.SweepNeg1
import WP.Props.C09.SweepNeg2
import WP.Props.C09.SweepNeg3
import WP.Props.C09.SweepPos0
import WP.Props.C09.SweepPos1
import WP.Props.C09.SweepPos2
import WP.Props.C09.SweepPos3
/-
  C09: the per-tick facts for every tick in [MIN_TICK_INDEX, MAX_TICK_INDEX), from the 32 kernel
  evaluations (one per ladder and residue class mod 16 of the tick's magnitude).
-/
namespace WP.C09
open WP WP.Gen

theorem sweepNeg_all : ∀ l < 2 ^ 4, sweepNeg l = true
  | 0, _ => sweepNeg_0 | 1, _ => sweepNeg_1 | 2, _ => sweepNeg_2 | 3, _ => sweepNeg_3
  | 4, _ => sweepNeg_4 | 5, _ => sweepNeg_5 | 6, _ => sweepNeg_6 | 7, _ => sweepNeg_7
  | 8, _ => sweepNeg_8 | 9, _ => sweepNeg_9 | 10, _ => sweepNeg_10 | 11, _ => sweepNeg_11
  | 12, _ => sweepNeg_12 | 13, _ => sweepNeg_13 | 14, _ => sweepNeg_14 | 15, _ => sweepNeg_15
  | l + 16, h => absurd h (by omega)

theorem sweepPos_all : ∀ l < 2 ^ 4, sweepPos l = true
  | 0, _ => sweepPos_0 | 1, _ => sweepPos_1 | 2, _ => sweepPos_2 | 3, _ => sweepPos_3
  | 4, _ => sweepPos_4 | 5, _ => sweepPos_5 | 6, _ => sweepPos_6 | 7, _ => sweepPos_7
  | 8, _ => sweepPos_8 | 9, _ => sweepPos_9 | 10, _ => sweepPos_10 | 11, _ => sweepPos_11
  | 12, _ => sweepPos_12 | 13, _ => sweepPos_13 | 14, _ => sweepPos_14 | 15, _ => sweepPos_15
  | l + 16, h => absurd h (by omega)

theorem sp_natCast (n : Nat) : sp (n : Int) = Nat.shiftRight (spPosRaw n) 32 := rfl

theorem sp_neg_natCast (n : Nat) : sp (-(n : Int)) = spNeg n := by
  cases n with
  | zero => decide
  | succ n => rfl

theorem all_ticks : ∀ t : Int, (-443636) ≤ t → t < 443636 →
    stepOk (sp t) (sp (t + 1)) = true ∧ invOk (t + 1 + 443636).toNat (sp (t + 1)) = true := by
  intro t h1 h2
  rcases Int.lt_or_le t 0 with h | h
  · obtain ⟨n, rfl⟩ : ∃ n : Nat, t = -((n + 1 : Nat) : Int) := ⟨(-t - 1).toNat, by omega⟩
    have hw := sweep_sound 64 443635 leafNeg negLadder 4 (by decide) sweepNeg_all n (by omega)
      (by rw [show negLadder.length = 19 from rfl]; omega)
    rw [← spNeg_eq_climb, ← spNeg_eq_climb, leafNeg, Bool.and_eq_true] at hw
    rw [show -((n + 1 : Nat) : Int) + 1 = -(n : Int) by omega, sp_neg_natCast, sp_neg_natCast,
      show (-(n : Int) + 443636).toNat = 443636 - n by omega]
    exact hw
  · obtain ⟨n, rfl⟩ := Int.eq_ofNat_of_zero_le h
    have hw := sweep_sound 96 443635 leafPos posLadder 4 (by decide) sweepPos_all n (by omega)
      (by rw [show posLadder.length = 19 from rfl]; omega)
    rw [← spPosRaw_eq_climb, ← spPosRaw_eq_climb, leafPos, Bool.and_eq_true] at hw
    rw [show (n : Int) + 1 = ((n + 1 : Nat) : Int) by omega, sp_natCast, sp_natCast,
      show (((n + 1 : Nat) : Int) + 443636).toNat = n + 443637 by omega]
    exact hw

end WP.C09
