import WP.Model.Packaging
/-
  Property C10 — a swap crosses exactly the initialized ticks in its path, however packaged.

  Model: WP/Model/SwapLoop.lean (per-array search, sequence search, swap loop over the ABSTRACT tick
  map) and WP/Model/Packaging.lean (which arrays `SparseSwapTickSequenceBuilder` hands to the loop).
  Proved here:
   * the per-array search returns the NEAREST initialized slot in swap direction — inclusive leftwards,
     exclusive rightwards, in the shifted range — or `None` exactly when there is none
     (arrayNext_down, arrayNext_up);
   * the sequence search over consecutive arrays returns the nearest initialized slot of the first
     array that has one, every array before it having none in its searched part; otherwise the
     sentinel: MIN/MAX tick for the edge arrays, else the first/last tick of the LAST supplied array —
     never a tick beyond the supplied arrays (seqNext_down, seqNext_up, by induction on the sequence);
   * one loop step can change the tick map and the liquidity only by crossing the tick the search
     returned, only if it is initialized and the price reached it, applying exactly its
     liquidity_net (cross_only_target);
   * the builder returns a non-empty PREFIX of the three required start indexes, stopping at the
     first one no supplied account covers (so liquidity is never skipped), rejects foreign arrays
     (buildSeq_spec); its result depends only on WHICH accounts are supplied, not on order,
     duplication or extras (buildSeq_congr); an initialized array and an empty account at its
     address are interchangeable for it (buildSeq_own_uninit); the required start indexes are
     consecutive in swap direction for every in-bounds current tick and spacing, incl. the arrays
     at the protocol bounds and the shifted state (start_indexes_consec, valid_of_mult);
   * an array without initialized ticks and the zeroed proxy answer every search identically (zeroed_eq);
   * fixed vs dynamic encoding: C13 (next_refines, get_refines).
  Not stated here: the composition over the whole loop.  The loop invariant built on
  seqNext_down_interval / seqNext_up_interval is in WP/Props/SwapPath.lean; "every initialized tick
  between start and end price is crossed exactly once, in order", as such, is checked on the
  implementation by the reference-traversal oracle of the history harness (from pool/tick snapshots,
  plus order and multiplicity from the step trace) and against the model by correspondence.
-/
set_option linter.unusedSimpArgs false
namespace WP.C10
open WP WP.Gen

def initAt (m : TickMap) (t : Int) : Bool := (m.get t).initialized

/-! ### the per-array search -/

theorem scanDown_some (m : TickMap) (start : Int) (ts k : Nat) (x : Int) (h : scanDown m start ts k = some x) :
    ∃ j, j ≤ k ∧ x = start + (j : Int) * ts ∧ initAt m x = true ∧
      ∀ i, j < i → i ≤ k → initAt m (start + (i : Int) * ts) = false := by
  induction k with
  | zero =>
    unfold scanDown at h
    split at h
    · cases h
      exact ⟨0, Nat.le_refl _, by simp, by simpa [initAt] using ‹_›, fun i h1 h2 => by omega⟩
    · cases h
  | succ k ih =>
    unfold scanDown at h
    simp only [] at h
    split at h
    · rename_i hi
      cases h
      exact ⟨k + 1, Nat.le_refl _, rfl, by simpa [initAt] using hi, fun i h1 h2 => by omega⟩
    · rename_i hi
      obtain ⟨j, hj, hx, hxi, hrest⟩ := ih h
      refine ⟨j, by omega, hx, hxi, ?_⟩
      intro i h1 h2
      by_cases hik : i = k + 1
      · subst hik; simpa [initAt] using hi
      · exact hrest i h1 (by omega)

theorem scanDown_none (m : TickMap) (start : Int) (ts k : Nat) (h : scanDown m start ts k = none) :
    ∀ i, i ≤ k → initAt m (start + (i : Int) * ts) = false := by
  induction k with
  | zero =>
    unfold scanDown at h
    split at h
    · cases h
    · rename_i hi
      intro i hi0
      have : i = 0 := by omega
      subst this
      simpa [initAt] using hi
  | succ k ih =>
    unfold scanDown at h
    simp only [] at h
    split at h
    · cases h
    · rename_i hi
      intro i hik
      by_cases he : i = k + 1
      · subst he; simpa [initAt] using hi
      · exact ih h i (by omega)

theorem scanUp_some (m : TickMap) (start : Int) (ts : Nat) (n k : Nat) (x : Int) (h : scanUp m start ts k n = some x) :
    ∃ j, k ≤ j ∧ j < k + n ∧ x = start + (j : Int) * ts ∧ initAt m x = true ∧
      ∀ i, k ≤ i → i < j → initAt m (start + (i : Int) * ts) = false := by
  induction n generalizing k with
  | zero => unfold scanUp at h; cases h
  | succ n ih =>
    unfold scanUp at h
    simp only [] at h
    split at h
    · rename_i hi
      cases h
      exact ⟨k, Nat.le_refl _, by omega, rfl, by simpa [initAt] using hi, fun i h1 h2 => by omega⟩
    · rename_i hi
      obtain ⟨j, hj1, hj2, hx, hxi, hrest⟩ := ih (k + 1) h
      refine ⟨j, by omega, by omega, hx, hxi, ?_⟩
      intro i h1 h2
      by_cases he : i = k
      · subst he; simpa [initAt] using hi
      · exact hrest i (by omega) h2

theorem scanUp_none (m : TickMap) (start : Int) (ts : Nat) (n k : Nat) (h : scanUp m start ts k n = none) :
    ∀ i, k ≤ i → i < k + n → initAt m (start + (i : Int) * ts) = false := by
  induction n generalizing k with
  | zero => intro i h1 h2; omega
  | succ n ih =>
    unfold scanUp at h
    simp only [] at h
    split at h
    · cases h
    · rename_i hi
      intro i h1 h2
      by_cases he : i = k
      · subst he; simpa [initAt] using hi
      · exact ih (k + 1) h i (by omega) (by omega)


/-- what the a→b search of one array answers: the greatest initialized slot tick ≤ the search tick -/
def DownAnswer (m : TickMap) (start : Int) (ts : Nat) (s : Int) : Option Int → Prop
  | some x => x ≤ s ∧ (∃ j : Nat, j < 88 ∧ x = start + (j : Int) * ts) ∧ initAt m x = true ∧
      ∀ i : Nat, x < start + (i : Int) * ts → start + (i : Int) * ts ≤ s → initAt m (start + (i : Int) * ts) = false
  | none => ∀ i : Nat, start + (i : Int) * ts ≤ s → initAt m (start + (i : Int) * ts) = false

/-- what the b→a search answers: the least initialized slot tick > the search tick -/
def UpAnswer (m : TickMap) (start : Int) (ts : Nat) (s : Int) : Option Int → Prop
  | some x => s < x ∧ (∃ j : Nat, j < 88 ∧ x = start + (j : Int) * ts) ∧ initAt m x = true ∧
      ∀ i : Nat, s < start + (i : Int) * ts → start + (i : Int) * ts < x → initAt m (start + (i : Int) * ts) = false
  | none => ∀ i : Nat, i < 88 → s < start + (i : Int) * ts → initAt m (start + (i : Int) * ts) = false

theorem le_off {start s : Int} {ts : Nat} (hts : 0 < ts) (i : Int) :
    i ≤ (s - start) / (ts : Int) ↔ start + i * ts ≤ s := by
  rw [Int.le_ediv_iff_mul_le (by omega)]; omega

theorem slot_lt {start : Int} {ts i j : Nat} (h : start + (i : Int) * ts < start + (j : Int) * ts) : i < j := by
  have : (i : Int) * ts < (j : Int) * ts := by omega
  have := Int.lt_of_mul_lt_mul_right this (by omega)
  omega

theorem arrayNext_down (m : TickMap) (start : Int) (ts : Nat) (s : Int) (hts : 0 < ts)
    (h1 : start ≤ s) (h2 : s < start + 88 * (ts : Int)) :
    ∃ r, arrayNextInit m start ts s true = .ok r ∧ DownAnswer m start ts s r := by
  have hT : ((TICK_ARRAY_SIZE : Nat) : Int) = 88 := rfl
  have hoff : ∀ i : Int, i ≤ (s - start) / (ts : Int) ↔ start + i * ts ≤ s := le_off hts
  have hoff0 := hoff 0
  have hoff1 := hoff 88
  have hk : (((s - start) / (ts : Int)).toNat : Int) = (s - start) / (ts : Int) := Int.toNat_of_nonneg (by omega)
  refine ⟨scanDown m start ts ((s - start) / (ts : Int)).toNat, ?_, ?_⟩
  · simp only [arrayNextInit, hT, ge_iff_le, h1, h2, decide_true, Bool.and_self, Bool.not_true, Bool.false_eq_true,
      if_false, if_true, show ¬ ts = 0 by omega, show ¬ (s - start) / (ts : Int) < 0 by omega,
      show ¬ 88 ≤ (s - start) / (ts : Int) by omega, decide_false, Bool.or_self]
  cases hsc : scanDown m start ts ((s - start) / (ts : Int)).toNat with
  | none =>
    intro i hi
    exact scanDown_none m start ts _ hsc i (by have := hoff i; omega)
  | some x =>
    obtain ⟨j, hj, hx, hxi, hrest⟩ := scanDown_some m start ts _ x hsc
    have := hoff j
    refine ⟨by omega, ⟨j, by omega, hx⟩, hxi, fun i hi1 hi2 => ?_⟩
    have := hoff i
    exact hrest i (slot_lt (hx ▸ hi1)) (by omega)

theorem arrayNext_up (m : TickMap) (start : Int) (ts : Nat) (s : Int) (hts : 0 < ts)
    (h1 : start - (ts : Int) ≤ s) (h2 : s < start + 88 * (ts : Int) - ts) :
    ∃ r, arrayNextInit m start ts s false = .ok r ∧ UpAnswer m start ts s r := by
  have hTn : TICK_ARRAY_SIZE = 88 := rfl
  have hoff : ∀ i : Int, i ≤ (s - start) / (ts : Int) ↔ start + i * ts ≤ s := le_off hts
  have hoff0 := hoff (-1)
  have hoff1 := hoff 87
  have hk : ((((s - start) / (ts : Int) + 1).toNat : Nat) : Int) = (s - start) / (ts : Int) + 1 := Int.toNat_of_nonneg (by omega)
  refine ⟨scanUp m start ts ((s - start) / (ts : Int) + 1).toNat (88 - ((s - start) / (ts : Int) + 1).toNat), ?_, ?_⟩
  · simp only [arrayNextInit, hTn, show ((88 : Nat) : Int) = 88 from rfl, ge_iff_le, h1, h2, decide_true, Bool.and_self, Bool.not_true, Bool.not_false,
      Bool.false_eq_true, if_false, if_true, show ¬ ts = 0 by omega, show ¬ (s - start) / (ts : Int) + 1 < 0 by omega,
      show ¬ 88 ≤ (s - start) / (ts : Int) + 1 by omega, decide_false, Bool.or_self]
  cases hsc : scanUp m start ts ((s - start) / (ts : Int) + 1).toNat (88 - ((s - start) / (ts : Int) + 1).toNat) with
  | none =>
    intro i hi88 hi
    have := hoff i
    exact scanUp_none m start ts _ _ hsc i (by omega) (by omega)
  | some x =>
    obtain ⟨j, hj1, hj2, hx, hxi, hrest⟩ := scanUp_some m start ts _ _ x hsc
    have := hoff j
    refine ⟨by omega, ⟨j, by omega, hx⟩, hxi, fun i hi1 hi2 => ?_⟩
    have := hoff i
    exact hrest i (by omega) (slot_lt (hx ▸ hi2))


/-! ### the search across the array sequence -/

def ConsecDown (arrays : List Int) (ts : Nat) : Prop :=
  ∀ k a b, arrays[k]? = some a → arrays[k + 1]? = some b → b = a - 88 * (ts : Int)

def ConsecUp (arrays : List Int) (ts : Nat) : Prop :=
  ∀ k a b, arrays[k]? = some a → arrays[k + 1]? = some b → b = a + 88 * (ts : Int)

theorem lt_length_of_getElem? {l : List Int} {k : Nat} {a : Int} (h : l[k]? = some a) : k < l.length :=
  (List.getElem?_eq_some_iff.mp h).1

/-- the tick from which array `k` is searched when the sequence search started in array `idx` at `s` -/
def searchDown (idx : Nat) (s : Int) (ts : Nat) (k : Nat) (stk : Int) : Int :=
  if k = idx then s else stk + 88 * (ts : Int) - 1

/-- a→b: the answer `(i, r)` of the sequence search started at tick `s` in array `idx`:
    every array before `i` holds no initialized slot at or below its search tick, and in array `i`
    either `r` is the greatest initialized slot at or below the search tick, or there is none and `r`
    is the sentinel (the minimum tick for the left-most array, else the first tick of the LAST
    supplied array) -/
def SeqDownSpec (m : TickMap) (arrays : List Int) (ts : Nat) (idx : Nat) (s : Int) (i : Nat) (r : Int) : Prop :=
  idx ≤ i ∧ ∃ st, arrays[i]? = some st ∧
    (∀ k stk, idx ≤ k → k < i → arrays[k]? = some stk → DownAnswer m stk ts (searchDown idx s ts k stk) none) ∧
    (DownAnswer m st ts (searchDown idx s ts i st) (some r) ∨
      (DownAnswer m st ts (searchDown idx s ts i st) none ∧
        ((r = MIN_TICK_INDEX ∧ st ≤ MIN_TICK_INDEX) ∨ (r = st ∧ i + 1 = arrays.length ∧ ¬ st ≤ MIN_TICK_INDEX))))

/-- the run of the a→b sequence search from tick `s` in array `idx` to its answer `(i, r)`: the array
    answers, or it is the left-most or the last one and the sentinel is returned, or the search goes on
    in the next array from the tick just below this one -/
inductive RunDown (m : TickMap) (arrays : List Int) (ts : Nat) : Nat → Int → Nat → Int → Prop
  | found {idx s start t} : arrays[idx]? = some start → start ≤ s → s < start + 88 * (ts : Int) →
      DownAnswer m start ts s (some t) → RunDown m arrays ts idx s idx t
  | edge {idx s start} : arrays[idx]? = some start → start ≤ s → s < start + 88 * (ts : Int) →
      DownAnswer m start ts s none → start ≤ MIN_TICK_INDEX → RunDown m arrays ts idx s idx MIN_TICK_INDEX
  | last {idx s start} : arrays[idx]? = some start → start ≤ s → s < start + 88 * (ts : Int) →
      DownAnswer m start ts s none → ¬ start ≤ MIN_TICK_INDEX → idx + 1 = arrays.length → RunDown m arrays ts idx s idx start
  | next {idx s start i r} : arrays[idx]? = some start → start ≤ s → s < start + 88 * (ts : Int) →
      DownAnswer m start ts s none → ¬ start ≤ MIN_TICK_INDEX → arrays[idx + 1]? = some (start - 88 * (ts : Int)) →
      RunDown m arrays ts (idx + 1) (start - 1) i r → RunDown m arrays ts idx s i r

theorem seqNext_runDown (m : TickMap) (arrays : List Int) (ts : Nat) (hts : 0 < ts) (hc : ConsecDown arrays ts) :
    ∀ (fuel idx : Nat) (s start : Int), arrays[idx]? = some start → start ≤ s → s < start + 88 * (ts : Int) →
      fuel + idx ≥ arrays.length →
      ∃ i r, seqNextInit m arrays ts true fuel s idx = .ok (i, r) ∧ RunDown m arrays ts idx s i r := by
  have hT : ((TICK_ARRAY_SIZE : Nat) : Int) = 88 := rfl
  intro fuel
  induction fuel with
  | zero =>
    intro idx s start hidx _ _ hf
    have := lt_length_of_getElem? hidx
    omega
  | succ fuel ih =>
    intro idx s start hidx h1 h2 hf
    have hlen := lt_length_of_getElem? hidx
    obtain ⟨r0, hr0, hans⟩ := arrayNext_down m start ts s hts h1 h2
    unfold seqNextInit
    rw [hidx]
    simp only [hr0]
    cases r0 with
    | some t => exact ⟨idx, t, rfl, .found hidx h1 h2 hans⟩
    | none =>
      simp only [Bool.true_and, Bool.not_true, Bool.false_and, Bool.false_eq_true, if_false, hT]
      by_cases hmin : start ≤ MIN_TICK_INDEX
      · simp only [hmin, decide_true, if_true]
        exact ⟨idx, _, rfl, .edge hidx h1 h2 hans hmin⟩
      · simp only [hmin, decide_false, Bool.false_eq_true, if_false]
        by_cases hlast : idx + 1 = arrays.length
        · simp only [hlast, if_true]
          exact ⟨idx, _, rfl, .last hidx h1 h2 hans hmin hlast⟩
        · simp only [hlast, if_false]
          obtain ⟨b, hget⟩ : ∃ b, arrays[idx + 1]? = some b :=
            ⟨_, List.getElem?_eq_getElem (show idx + 1 < arrays.length by omega)⟩
          have hst' := hc idx start b hidx hget
          obtain ⟨i, r, hrun, hR⟩ := ih (idx + 1) (start - 1) b hget (by omega) (by omega) (by omega)
          exact ⟨i, r, hrun, .next hidx h1 h2 hans hmin (hst' ▸ hget) hR⟩

theorem searchTick_succ {idx k : Nat} {s s' d : Int} (hk : idx < k) (h : k = idx + 1 → d = s') :
    (if k = idx then s else d) = if k = idx + 1 then s' else d := by
  rw [if_neg (by omega)]
  by_cases hk' : k = idx + 1
  · rw [if_pos hk', h hk']
  · rw [if_neg hk']

theorem searchDown_succ {idx k : Nat} {s start stk : Int} {ts : Nat} {arrays : List Int} (hk : idx < k)
    (hn : arrays[idx + 1]? = some (start - 88 * (ts : Int))) (hkst : arrays[k]? = some stk) :
    searchDown idx s ts k stk = searchDown (idx + 1) (start - 1) ts k stk :=
  searchTick_succ hk fun e => by subst e; rw [hn] at hkst; cases hkst; omega

theorem seqSpec_of_runDown {m : TickMap} {arrays : List Int} {ts : Nat} {idx i : Nat} {s r : Int}
    (h : RunDown m arrays ts idx s i r) : SeqDownSpec m arrays ts idx s i r := by
  induction h with
  | found hidx _ _ hans =>
    exact ⟨Nat.le_refl _, _, hidx, fun k stk h3 h4 => by omega, Or.inl (by simpa [searchDown] using hans)⟩
  | edge hidx _ _ hans hmin =>
    exact ⟨Nat.le_refl _, _, hidx, fun k stk h3 h4 => by omega, Or.inr ⟨by simpa [searchDown] using hans, Or.inl ⟨rfl, hmin⟩⟩⟩
  | last hidx _ _ hans hmin hlast =>
    exact ⟨Nat.le_refl _, _, hidx, fun k stk h3 h4 => by omega, Or.inr ⟨by simpa [searchDown] using hans, Or.inr ⟨rfl, hlast, hmin⟩⟩⟩
  | @next idx s start i r hidx _ _ hans _ hn _ ih =>
    obtain ⟨hi, st, hsti, hbefore, hat⟩ := ih
    refine ⟨by omega, st, hsti, ?_, ?_⟩
    · intro k stk hk1 hk2 hkst
      by_cases hki : k = idx
      · subst hki
        rw [hidx] at hkst; cases hkst
        simpa [searchDown] using hans
      · rw [searchDown_succ (by omega) hn hkst]; exact hbefore k stk (by omega) hk2 hkst
    · rw [searchDown_succ (by omega) hn hsti]; exact hat

theorem seqNext_down (m : TickMap) (arrays : List Int) (ts : Nat) (hts : 0 < ts) (hc : ConsecDown arrays ts) :
    ∀ (fuel idx : Nat) (s start : Int), arrays[idx]? = some start → start ≤ s → s < start + 88 * (ts : Int) →
      fuel + idx ≥ arrays.length →
      ∃ i r, seqNextInit m arrays ts true fuel s idx = .ok (i, r) ∧ SeqDownSpec m arrays ts idx s i r := by
  intro fuel idx s start a b c d
  obtain ⟨i, r, h, hR⟩ := seqNext_runDown m arrays ts hts hc fuel idx s start a b c d
  exact ⟨i, r, h, seqSpec_of_runDown hR⟩

def searchUp (idx : Nat) (s : Int) (k : Nat) (stk : Int) : Int :=
  if k = idx then s else stk - 1

/-- b→a: as `SeqDownSpec`, with the least initialized slot above the search tick; sentinels are the
    maximum tick for the right-most array, else the last tick of the LAST supplied array -/
def SeqUpSpec (m : TickMap) (arrays : List Int) (ts : Nat) (idx : Nat) (s : Int) (i : Nat) (r : Int) : Prop :=
  idx ≤ i ∧ ∃ st, arrays[i]? = some st ∧
    (∀ k stk, idx ≤ k → k < i → arrays[k]? = some stk → UpAnswer m stk ts (searchUp idx s k stk) none) ∧
    (UpAnswer m st ts (searchUp idx s i st) (some r) ∨
      (UpAnswer m st ts (searchUp idx s i st) none ∧
        ((r = MAX_TICK_INDEX ∧ st + 88 * (ts : Int) > MAX_TICK_INDEX) ∨
         (r = st + 88 * (ts : Int) - 1 ∧ i + 1 = arrays.length ∧ ¬ st + 88 * (ts : Int) > MAX_TICK_INDEX))))

/-- the run of the b→a sequence search; it goes on in the next array from that array's shifted lower bound -/
inductive RunUp (m : TickMap) (arrays : List Int) (ts : Nat) : Nat → Int → Nat → Int → Prop
  | found {idx s start t} : arrays[idx]? = some start → start - (ts : Int) ≤ s → s < start + 88 * (ts : Int) - ts →
      UpAnswer m start ts s (some t) → RunUp m arrays ts idx s idx t
  | edge {idx s start} : arrays[idx]? = some start → start - (ts : Int) ≤ s → s < start + 88 * (ts : Int) - ts →
      UpAnswer m start ts s none → start + 88 * (ts : Int) > MAX_TICK_INDEX → RunUp m arrays ts idx s idx MAX_TICK_INDEX
  | last {idx s start} : arrays[idx]? = some start → start - (ts : Int) ≤ s → s < start + 88 * (ts : Int) - ts →
      UpAnswer m start ts s none → ¬ start + 88 * (ts : Int) > MAX_TICK_INDEX → idx + 1 = arrays.length →
      RunUp m arrays ts idx s idx (start + 88 * (ts : Int) - 1)
  | next {idx s start i r} : arrays[idx]? = some start → start - (ts : Int) ≤ s → s < start + 88 * (ts : Int) - ts →
      UpAnswer m start ts s none → ¬ start + 88 * (ts : Int) > MAX_TICK_INDEX → arrays[idx + 1]? = some (start + 88 * (ts : Int)) →
      RunUp m arrays ts (idx + 1) (start + 88 * (ts : Int) - 1) i r → RunUp m arrays ts idx s i r

theorem seqNext_runUp (m : TickMap) (arrays : List Int) (ts : Nat) (hts : 0 < ts) (hc : ConsecUp arrays ts) :
    ∀ (fuel idx : Nat) (s start : Int), arrays[idx]? = some start → start - (ts : Int) ≤ s → s < start + 88 * (ts : Int) - ts →
      fuel + idx ≥ arrays.length →
      ∃ i r, seqNextInit m arrays ts false fuel s idx = .ok (i, r) ∧ RunUp m arrays ts idx s i r := by
  have hT : ((TICK_ARRAY_SIZE : Nat) : Int) = 88 := rfl
  intro fuel
  induction fuel with
  | zero =>
    intro idx s start hidx _ _ hf
    have := lt_length_of_getElem? hidx
    omega
  | succ fuel ih =>
    intro idx s start hidx h1 h2 hf
    have hlen := lt_length_of_getElem? hidx
    obtain ⟨r0, hr0, hans⟩ := arrayNext_up m start ts s hts h1 h2
    unfold seqNextInit
    rw [hidx]
    simp only [hr0]
    cases r0 with
    | some t => exact ⟨idx, t, rfl, .found hidx h1 h2 hans⟩
    | none =>
      simp only [Bool.false_and, Bool.false_eq_true, if_false, Bool.not_false, Bool.true_and, hT]
      by_cases hmax : start + 88 * (ts : Int) > MAX_TICK_INDEX
      · simp only [hmax, decide_true, if_true]
        exact ⟨idx, _, rfl, .edge hidx h1 h2 hans hmax⟩
      · simp only [hmax, decide_false, Bool.false_eq_true, if_false]
        by_cases hlast : idx + 1 = arrays.length
        · simp only [hlast, if_true]
          exact ⟨idx, _, rfl, .last hidx h1 h2 hans hmax hlast⟩
        · simp only [hlast, if_false]
          obtain ⟨b, hget⟩ : ∃ b, arrays[idx + 1]? = some b :=
            ⟨_, List.getElem?_eq_getElem (show idx + 1 < arrays.length by omega)⟩
          have hst' := hc idx start b hidx hget
          obtain ⟨i, r, hrun, hR⟩ := ih (idx + 1) (start + 88 * (ts : Int) - 1) b hget (by omega) (by omega) (by omega)
          exact ⟨i, r, hrun, .next hidx h1 h2 hans hmax (hst' ▸ hget) hR⟩

theorem searchUp_succ {idx k : Nat} {s start stk : Int} {ts : Nat} {arrays : List Int} (hk : idx < k)
    (hn : arrays[idx + 1]? = some (start + 88 * (ts : Int))) (hkst : arrays[k]? = some stk) :
    searchUp idx s k stk = searchUp (idx + 1) (start + 88 * (ts : Int) - 1) k stk :=
  searchTick_succ hk fun e => by subst e; rw [hn] at hkst; cases hkst; omega

theorem seqSpec_of_runUp {m : TickMap} {arrays : List Int} {ts : Nat} {idx i : Nat} {s r : Int}
    (h : RunUp m arrays ts idx s i r) : SeqUpSpec m arrays ts idx s i r := by
  induction h with
  | found hidx _ _ hans =>
    exact ⟨Nat.le_refl _, _, hidx, fun k stk h3 h4 => by omega, Or.inl (by simpa [searchUp] using hans)⟩
  | edge hidx _ _ hans hmax =>
    exact ⟨Nat.le_refl _, _, hidx, fun k stk h3 h4 => by omega, Or.inr ⟨by simpa [searchUp] using hans, Or.inl ⟨rfl, hmax⟩⟩⟩
  | last hidx _ _ hans hmax hlast =>
    exact ⟨Nat.le_refl _, _, hidx, fun k stk h3 h4 => by omega, Or.inr ⟨by simpa [searchUp] using hans, Or.inr ⟨rfl, hlast, hmax⟩⟩⟩
  | @next idx s start i r hidx _ _ hans _ hn _ ih =>
    obtain ⟨hi, st, hsti, hbefore, hat⟩ := ih
    refine ⟨by omega, st, hsti, ?_, ?_⟩
    · intro k stk hk1 hk2 hkst
      by_cases hki : k = idx
      · subst hki
        rw [hidx] at hkst; cases hkst
        simpa [searchUp] using hans
      · rw [searchUp_succ (by omega) hn hkst]; exact hbefore k stk (by omega) hk2 hkst
    · rw [searchUp_succ (by omega) hn hsti]; exact hat

theorem seqNext_up (m : TickMap) (arrays : List Int) (ts : Nat) (hts : 0 < ts) (hc : ConsecUp arrays ts) :
    ∀ (fuel idx : Nat) (s start : Int), arrays[idx]? = some start → start - (ts : Int) ≤ s → s < start + 88 * (ts : Int) - ts →
      fuel + idx ≥ arrays.length →
      ∃ i r, seqNextInit m arrays ts false fuel s idx = .ok (i, r) ∧ SeqUpSpec m arrays ts idx s i r := by
  intro fuel idx s start a b c d
  obtain ⟨i, r, h, hR⟩ := seqNext_runUp m arrays ts hts hc fuel idx s start a b c d
  exact ⟨i, r, h, seqSpec_of_runUp hR⟩


/-! ### the search answer as an interval statement over ALL ticks -/

/-- every array start is a multiple of the spacing (valid start indexes are: `validStart_mod`, C12) -/
def StartsAligned (arrays : List Int) (ts : Nat) : Prop := ∀ (k : Nat) (st : Int), arrays[k]? = some st → st % (ts : Int) = 0

theorem mult_gap (T u v : Int) (hT : 0 < T) (hu : T ∣ u) (hv : T ∣ v) (h : u < v) : u + T ≤ v := by
  obtain ⟨a, rfl⟩ := hu
  obtain ⟨b, rfl⟩ := hv
  have : a < b := Int.lt_of_mul_lt_mul_left h (by omega)
  have h2 : T * (a + 1) ≤ T * b := Int.mul_le_mul_of_nonneg_left (by omega) (by omega)
  rw [Int.mul_add, Int.mul_one] at h2
  exact h2

theorem grid_ge (st x : Int) (ts : Nat) (hts : 0 < ts) (hst : st % (ts : Int) = 0) (hx : x % (ts : Int) = 0)
    (h : st - (ts : Int) < x) : st ≤ x := by
  have := mult_gap ts (st - ts) x (by omega) (Int.dvd_sub (Int.dvd_of_emod_eq_zero hst) (Int.dvd_refl _))
    (Int.dvd_of_emod_eq_zero hx) h
  omega

theorem slot_of (st x : Int) (ts : Nat) (hts : 0 < ts) (hst : st % (ts : Int) = 0) (hx : x % (ts : Int) = 0)
    (h : st - (ts : Int) < x) : ∃ j : Nat, x = st + (j : Int) * ts ∧ (x < st + 88 * (ts : Int) → j < 88) := by
  have h1 := grid_ge st x ts hts hst hx h
  obtain ⟨q, hq⟩ := Int.dvd_sub (Int.dvd_of_emod_eq_zero hx) (Int.dvd_of_emod_eq_zero hst)
  have hq0 : 0 ≤ q := by
    by_cases hneg : q < 0
    · have h4 : (ts : Int) * q ≤ (ts : Int) * (-1) := Int.mul_le_mul_of_nonneg_left (by omega) (by omega)
      omega
    · omega
  have hj : x = st + (q.toNat : Int) * ts := by rw [Int.toNat_of_nonneg hq0, Int.mul_comm]; omega
  exact ⟨q.toNat, hj, fun h => slot_lt (start := st) (ts := ts) (j := 88) (by omega)⟩

theorem slot_mem (st : Int) {ts j : Nat} (hts : 0 < ts) (hj : j < 88) :
    st ≤ st + (j : Int) * ts ∧ st + (j : Int) * ts < st + 88 * (ts : Int) := by
  have h0 : (0 : Int) ≤ (j : Int) * ts := Int.mul_nonneg (by omega) (by omega)
  have h1 : (j : Int) * ts < 88 * (ts : Int) := Int.mul_lt_mul_of_pos_right (by omega) (by omega)
  omega

theorem interval_of_runDown {m : TickMap} {arrays : List Int} {ts : Nat} (hts : 0 < ts) (hal : StartsAligned arrays ts)
    {idx i : Nat} {s r : Int} (h : RunDown m arrays ts idx s i r) (hms : MIN_TICK_INDEX ≤ s) :
    idx ≤ i ∧ r ≤ s ∧ (∃ st, arrays[i]? = some st ∧ st ≤ r ∧ r < st + 88 * (ts : Int) ∧
        (initAt m r = true ∨ r = MIN_TICK_INDEX ∨ (r = st ∧ i + 1 = arrays.length ∧ MIN_TICK_INDEX < st))) ∧
      (∀ x, r < x → x ≤ s → x % (ts : Int) = 0 → initAt m x = false) := by
  have hnone : ∀ {idx : Nat} {s start : Int}, arrays[idx]? = some start → DownAnswer m start ts s none →
      ∀ x, start ≤ x → x ≤ s → x % (ts : Int) = 0 → initAt m x = false := by
    intro idx s start hidx hans x hx1 hx2 hx3
    obtain ⟨j, hj, _⟩ := slot_of start x ts hts (hal idx start hidx) hx3 (by omega)
    rw [hj]; apply hans; omega
  induction h with
  | @found idx s start t hidx h1 h2 hans =>
    obtain ⟨ht1, ⟨j, hj88, hj⟩, ht3, ht4⟩ := hans
    have hjm := slot_mem start hts hj88
    refine ⟨Nat.le_refl _, ht1, ⟨start, hidx, by omega, by omega, Or.inl ht3⟩, ?_⟩
    intro x hx1 hx2 hx3
    obtain ⟨jx, hjx, _⟩ := slot_of start x ts hts (hal idx start hidx) hx3 (by omega)
    rw [hjx]; apply ht4 <;> omega
  | edge hidx h1 h2 hans hmin =>
    exact ⟨Nat.le_refl _, hms, ⟨_, hidx, hmin, by omega, Or.inr (Or.inl rfl)⟩,
      fun x hx1 hx2 hx3 => hnone hidx hans x (by omega) hx2 hx3⟩
  | last hidx h1 h2 hans hmin hlast =>
    exact ⟨Nat.le_refl _, h1, ⟨_, hidx, Int.le_refl _, by omega, Or.inr (Or.inr ⟨rfl, hlast, by omega⟩)⟩,
      fun x hx1 hx2 hx3 => hnone hidx hans x (by omega) hx2 hx3⟩
  | @next idx s start i r hidx h1 h2 hans hmin hn _ ih =>
    obtain ⟨hi, hrs, hloc, hno⟩ := ih (by omega)
    refine ⟨by omega, by omega, hloc, fun x hx1 hx2 hx3 => ?_⟩
    by_cases hxs : start ≤ x
    · exact hnone hidx hans x hxs hx2 hx3
    · exact hno x hx1 (by omega) hx3

/-- a→b, as a statement about ALL ticks: the search started at tick `s` in array `idx` returns `r ≤ s`
    such that NO initialized grid tick lies in (r, s], and `r` itself is initialized or is the sentinel
    (and then not initialized either, unless it is an initialized slot — which the search would have
    returned) -/
theorem seqNext_down_interval (m : TickMap) (arrays : List Int) (ts : Nat) (hts : 0 < ts) (hc : ConsecDown arrays ts)
    (hal : StartsAligned arrays ts) :
    ∀ (fuel idx : Nat) (s start : Int), arrays[idx]? = some start → start ≤ s → s < start + 88 * (ts : Int) →
      MIN_TICK_INDEX ≤ s → fuel + idx ≥ arrays.length →
      ∃ i r, seqNextInit m arrays ts true fuel s idx = .ok (i, r) ∧ idx ≤ i ∧ r ≤ s ∧
        (∃ st, arrays[i]? = some st ∧ st ≤ r ∧ r < st + 88 * (ts : Int)) ∧
        (∀ x, r < x → x ≤ s → x % (ts : Int) = 0 → initAt m x = false) ∧
        (initAt m r = true ∨ r = MIN_TICK_INDEX ∨ (∃ st, arrays[i]? = some st ∧ r = st ∧ i + 1 = arrays.length ∧ MIN_TICK_INDEX < st)) := by
  intro fuel idx s start a b c hms d
  obtain ⟨i, r, h, hR⟩ := seqNext_runDown m arrays ts hts hc fuel idx s start a b c d
  obtain ⟨hi, hrs, ⟨st, hst, q1, q2, hkind⟩, hno⟩ := interval_of_runDown hts hal hR hms
  exact ⟨i, r, h, hi, hrs, ⟨st, hst, q1, q2⟩, hno, hkind.imp_right (Or.imp_right fun k => ⟨st, hst, k⟩)⟩

theorem interval_of_runUp {m : TickMap} {arrays : List Int} {ts : Nat} (hts : 0 < ts) (hal : StartsAligned arrays ts)
    {idx i : Nat} {s r : Int} (h : RunUp m arrays ts idx s i r) (hmx : s < MAX_TICK_INDEX) :
    idx ≤ i ∧ s < r ∧ (∃ st, arrays[i]? = some st ∧ st - (ts : Int) < r ∧ r < st + 88 * (ts : Int) ∧
        (initAt m r = true ∨ r = MAX_TICK_INDEX ∨
          (r = st + 88 * (ts : Int) - 1 ∧ i + 1 = arrays.length ∧ st + 88 * (ts : Int) ≤ MAX_TICK_INDEX))) ∧
      (∀ x, s < x → x < r → x % (ts : Int) = 0 → initAt m x = false) := by
  have hnone : ∀ {idx : Nat} {s start : Int}, arrays[idx]? = some start → start - (ts : Int) ≤ s → UpAnswer m start ts s none →
      ∀ x, s < x → x < start + 88 * (ts : Int) → x % (ts : Int) = 0 → initAt m x = false := by
    intro idx s start hidx h1 hans x hx1 hx2 hx3
    obtain ⟨j, hj, hj88⟩ := slot_of start x ts hts (hal idx start hidx) hx3 (by omega)
    rw [hj]; apply hans j (hj88 hx2); omega
  induction h with
  | @found idx s start t hidx h1 h2 hans =>
    obtain ⟨ht1, ⟨j, hj88, hj⟩, ht3, ht4⟩ := hans
    have hjm := slot_mem start hts hj88
    refine ⟨Nat.le_refl _, ht1, ⟨start, hidx, by omega, by omega, Or.inl ht3⟩, ?_⟩
    intro x hx1 hx2 hx3
    obtain ⟨jx, hjx, _⟩ := slot_of start x ts hts (hal idx start hidx) hx3 (by omega)
    rw [hjx]; apply ht4 <;> omega
  | edge hidx h1 h2 hans hmax =>
    exact ⟨Nat.le_refl _, hmx, ⟨_, hidx, by omega, by omega, Or.inr (Or.inl rfl)⟩,
      fun x hx1 hx2 hx3 => hnone hidx h1 hans x hx1 (by omega) hx3⟩
  | last hidx h1 h2 hans hmax hlast =>
    exact ⟨Nat.le_refl _, by omega, ⟨_, hidx, by omega, by omega, Or.inr (Or.inr ⟨rfl, hlast, by omega⟩)⟩,
      fun x hx1 hx2 hx3 => hnone hidx h1 hans x hx1 (by omega) hx3⟩
  | @next idx s start i r hidx h1 h2 hans hmax hn _ ih =>
    obtain ⟨hi, hrs, hloc, hno⟩ := ih (by omega)
    refine ⟨by omega, by omega, hloc, fun x hx1 hx2 hx3 => ?_⟩
    by_cases hxs : x < start + 88 * (ts : Int)
    · exact hnone hidx h1 hans x hx1 hxs hx3
    · exact hno x (by omega) hx2 hx3

/-- b→a, as a statement about ALL ticks: the search started at tick `s` returns `r > s` such that no
    initialized grid tick lies strictly between, and `r` is initialized or the sentinel -/
theorem seqNext_up_interval (m : TickMap) (arrays : List Int) (ts : Nat) (hts : 0 < ts) (hc : ConsecUp arrays ts)
    (hal : StartsAligned arrays ts) :
    ∀ (fuel idx : Nat) (s start : Int), arrays[idx]? = some start → start - (ts : Int) ≤ s → s < start + 88 * (ts : Int) - ts →
      s < MAX_TICK_INDEX → fuel + idx ≥ arrays.length →
      ∃ i r, seqNextInit m arrays ts false fuel s idx = .ok (i, r) ∧ idx ≤ i ∧ s < r ∧
        (∃ st, arrays[i]? = some st ∧ st - (ts : Int) < r ∧ r < st + 88 * (ts : Int)) ∧
        (∀ x, s < x → x < r → x % (ts : Int) = 0 → initAt m x = false) ∧
        (initAt m r = true ∨ r = MAX_TICK_INDEX ∨ (∃ st, arrays[i]? = some st ∧ r = st + 88 * (ts : Int) - 1 ∧ i + 1 = arrays.length ∧ st + 88 * (ts : Int) ≤ MAX_TICK_INDEX)) := by
  intro fuel idx s start a b c hmx d
  obtain ⟨i, r, h, hR⟩ := seqNext_runUp m arrays ts hts hc fuel idx s start a b c d
  obtain ⟨hi, hrs, ⟨st, hst, q1, q2, hkind⟩, hno⟩ := interval_of_runUp hts hal hR hmx
  exact ⟨i, r, h, hi, hrs, ⟨st, hst, q1, q2⟩, hno, hkind.imp_right (Or.imp_right fun k => ⟨st, hst, k⟩)⟩

/-! ### which arrays the builder picks -/

def tia (ts : Nat) : Int := ((TICK_ARRAY_SIZE : Nat) : Int) * ts
def minStart (ts : Nat) : Int := MIN_TICK_INDEX - (Int.tmod MIN_TICK_INDEX (tia ts) + tia ts)

theorem tia_eq (ts : Nat) : tia ts = 88 * (ts : Int) := rfl

theorem min_tmod (ts : Nat) (hts : 0 < ts) :
    -(tia ts) < Int.tmod MIN_TICK_INDEX (tia ts) ∧ Int.tmod MIN_TICK_INDEX (tia ts) ≤ 0 ∧
    tia ts ∣ MIN_TICK_INDEX - Int.tmod MIN_TICK_INDEX (tia ts) := by
  have hpos : 0 < tia ts := by rw [tia_eq]; omega
  refine ⟨Int.lt_tmod_of_pos _ hpos, ?_, ?_⟩
  · have : MIN_TICK_INDEX = -443636 := rfl
    rw [this, Int.neg_tmod]
    have := Int.tmod_nonneg (tia ts) (show (0 : Int) ≤ 443636 by decide)
    omega
  · have := Int.mul_tdiv_add_tmod MIN_TICK_INDEX (tia ts)
    exact ⟨Int.tdiv MIN_TICK_INDEX (tia ts), by omega⟩

/-- among multiples of the array span, the valid start indexes are those inside the protocol
    bounds plus the one array straddling the minimum tick -/
theorem valid_of_mult (t : Int) (ts : Nat) (hts : 0 < ts) (hd : tia ts ∣ t) :
    validStartTick t ts = true ↔ ((MIN_TICK_INDEX ≤ t ∧ t ≤ MAX_TICK_INDEX) ∨ t = minStart ts) := by
  have e : ((TICK_ARRAY_SIZE : Nat) : Int) * (ts : Int) = tia ts := rfl
  unfold validStartTick outOfBounds minStart
  simp only [e]
  have hmm : MIN_TICK_INDEX ≤ MAX_TICK_INDEX := by decide
  by_cases hin : MIN_TICK_INDEX ≤ t ∧ t ≤ MAX_TICK_INDEX
  · simp only [hin.1, hin.2, decide_true, Bool.and_self, Bool.not_true, Bool.false_eq_true, if_false]
    simp only [Int.tmod_eq_zero_of_dvd hd, decide_true, true_iff]
    exact Or.inl ⟨trivial, trivial⟩
  · have hout : (!(decide (MIN_TICK_INDEX ≤ t) && decide (t ≤ MAX_TICK_INDEX))) = true := by
      simp only [Bool.not_eq_true', Bool.and_eq_false_iff, decide_eq_false_iff_not]
      by_cases h : MIN_TICK_INDEX ≤ t
      · right; intro h2; exact hin ⟨h, h2⟩
      · left; exact h
    rw [if_pos hout]
    by_cases hgt : t > MIN_TICK_INDEX
    · rw [if_pos hgt]
      constructor
      · intro h; cases h
      · intro h
        rcases h with h | h
        · exact absurd h hin
        · exfalso
          -- minStart < MIN < t
          have := min_tmod ts hts
          have hpos : 0 < tia ts := by rw [tia_eq]; omega
          omega
    · rw [if_neg hgt]
      simp only [decide_eq_true_eq]
      constructor
      · intro h; exact Or.inr h
      · intro h
        rcases h with h | h
        · exact absurd h hin
        · exact h


/-- a filter that, once it drops an element, drops all later ones, keeps a prefix -/
theorem filter3_prefix (p : Int → Bool) (x y z : Int) (h0 : p x = false → p y = false) (h1 : p y = false → p z = false) :
    [x, y, z].filter p <+: [x, y, z] := by
  cases hx : p x <;> cases hy : p y <;> cases hz : p z <;> simp_all [List.filter]

theorem consecDown3 (x y z : Int) (ts : Nat) (hy : y = x - tia ts) (hz : z = y - tia ts) : ConsecDown [x, y, z] ts := by
  intro k a b ha hb
  rw [tia_eq] at hy hz
  match k with
  | 0 => cases ha; cases hb; exact hy
  | 1 => cases ha; cases hb; exact hz
  | k + 2 => cases hb

theorem consecUp3 (x y z : Int) (ts : Nat) (hy : y = x + tia ts) (hz : z = y + tia ts) : ConsecUp [x, y, z] ts := by
  intro k a b ha hb
  rw [tia_eq] at hy hz
  match k with
  | 0 => cases ha; cases hb; exact hy
  | 1 => cases ha; cases hb; exact hz
  | k + 2 => cases hb

theorem getElem?_of_prefix {l l' : List Int} (hp : l' <+: l) {k : Nat} {a : Int} (h : l'[k]? = some a) : l[k]? = some a := by
  obtain ⟨t, rfl⟩ := hp
  rw [List.getElem?_append_left (lt_length_of_getElem? h)]; exact h

theorem consecDown_prefix (l l' : List Int) (ts : Nat) (h : ConsecDown l ts) (hp : l' <+: l) : ConsecDown l' ts :=
  fun k a b ha hb => h k a b (getElem?_of_prefix hp ha) (getElem?_of_prefix hp hb)

theorem consecUp_prefix (l l' : List Int) (ts : Nat) (h : ConsecUp l ts) (hp : l' <+: l) : ConsecUp l' ts :=
  fun k a b ha hb => h k a b (getElem?_of_prefix hp ha) (getElem?_of_prefix hp hb)

theorem base_facts (cur : Int) (ts : Nat) (hts : 0 < ts) :
    tia ts ∣ cur / tia ts * tia ts ∧ cur / tia ts * tia ts ≤ cur ∧ cur < cur / tia ts * tia ts + tia ts := by
  have hpos : 0 < tia ts := by rw [tia_eq]; omega
  refine ⟨Int.dvd_mul_left _ _, Int.ediv_mul_le _ (by omega), ?_⟩
  have := Int.lt_ediv_add_one_mul_self cur hpos
  rw [Int.add_mul, Int.one_mul] at this
  exact this

theorem invalid_of_mult (t : Int) (ts : Nat) (hts : 0 < ts) (hd : tia ts ∣ t) :
    validStartTick t ts = false ↔ ¬ ((MIN_TICK_INDEX ≤ t ∧ t ≤ MAX_TICK_INDEX) ∨ t = minStart ts) := by
  rw [← valid_of_mult t ts hts hd, Bool.not_eq_true]

theorem invalid_down (t : Int) (ts : Nat) (hts : 0 < ts) (hd : tia ts ∣ t) (hle : t ≤ MAX_TICK_INDEX)
    (h : validStartTick t ts = false) : validStartTick (t - tia ts) ts = false := by
  have hpos : 0 < tia ts := by rw [tia_eq]; omega
  have hm := min_tmod ts hts
  rw [invalid_of_mult _ ts hts hd] at h
  rw [invalid_of_mult _ ts hts (Int.dvd_sub hd (Int.dvd_refl _))]
  -- t - T = minStart would put t = MIN - r inside the bounds
  unfold minStart at h ⊢
  omega

theorem invalid_up (t : Int) (ts : Nat) (hts : 0 < ts) (hd : tia ts ∣ t) (hge : MIN_TICK_INDEX ≤ t)
    (h : validStartTick t ts = false) : validStartTick (t + tia ts) ts = false := by
  have hpos : 0 < tia ts := by rw [tia_eq]; omega
  have hm := min_tmod ts hts
  rw [invalid_of_mult _ ts hts hd] at h
  rw [invalid_of_mult _ ts hts (Int.dvd_add hd (Int.dvd_refl _))]
  unfold minStart at h ⊢
  omega

theorem base_valid (cur : Int) (ts : Nat) (hts : 0 < ts) (h1 : MIN_TICK_INDEX ≤ cur) (h2 : cur ≤ MAX_TICK_INDEX) :
    validStartTick (cur / tia ts * tia ts) ts = true := by
  have hpos : 0 < tia ts := by rw [tia_eq]; omega
  obtain ⟨hd, hb1, hb2⟩ := base_facts cur ts hts
  rw [valid_of_mult _ ts hts hd]
  have hm := min_tmod ts hts
  by_cases hge : MIN_TICK_INDEX ≤ cur / tia ts * tia ts
  · left; constructor <;> omega
  · right
    -- base is a multiple with MIN - T < base < MIN; minStart + T = MIN - r is the least multiple ≥ MIN
    unfold minStart
    have hlt : cur / tia ts * tia ts < MIN_TICK_INDEX - Int.tmod MIN_TICK_INDEX (tia ts) := by omega
    have g1 := mult_gap (tia ts) _ _ hpos hd hm.2.2 hlt
    have hd3 : tia ts ∣ MIN_TICK_INDEX - (Int.tmod MIN_TICK_INDEX (tia ts) + tia ts) := by
      have : MIN_TICK_INDEX - (Int.tmod MIN_TICK_INDEX (tia ts) + tia ts) =
          (MIN_TICK_INDEX - Int.tmod MIN_TICK_INDEX (tia ts)) - tia ts := by omega
      rw [this]; exact Int.dvd_sub hm.2.2 (Int.dvd_refl _)
    by_cases heq : cur / tia ts * tia ts = MIN_TICK_INDEX - (Int.tmod MIN_TICK_INDEX (tia ts) + tia ts)
    · exact heq
    · exfalso
      have hlt2 : cur / tia ts * tia ts < MIN_TICK_INDEX - (Int.tmod MIN_TICK_INDEX (tia ts) + tia ts) := by omega
      have g2 := mult_gap (tia ts) _ _ hpos hd hd3 hlt2
      omega

/-- **the sequence the builder can hand to `swap` is consecutive in swap direction** -/
theorem start_indexes_consec (cur : Int) (ts : Nat) (hts : 0 < ts) (h1 : MIN_TICK_INDEX ≤ cur) (h2 : cur ≤ MAX_TICK_INDEX) :
    ConsecDown (startTickIndexes cur ts true) ts ∧ ConsecUp (startTickIndexes cur ts false) ts := by
  have hpos : 0 < tia ts := by rw [tia_eq]; omega
  have e : ((TICK_ARRAY_SIZE : Nat) : Int) * (ts : Int) = tia ts := rfl
  obtain ⟨hd, hb1, hb2⟩ := base_facts cur ts hts
  have hbv := base_valid cur ts hts h1 h2
  have hd1 : tia ts ∣ cur / tia ts * tia ts + tia ts := Int.dvd_add hd (Int.dvd_refl _)
  have hd2 : tia ts ∣ cur / tia ts * tia ts + tia ts + tia ts := Int.dvd_add hd1 (Int.dvd_refl _)
  unfold startTickIndexes
  simp only [e, if_true, Bool.false_eq_true, if_false]
  generalize cur / tia ts * tia ts = base at *
  -- the candidates are three consecutive starts, filtered by validity; validity is lost at most once
  -- on the way outwards, and the array of the current tick is valid
  have hdo : ∀ o : Int, tia ts ∣ base + o * tia ts := fun o => Int.dvd_add hd (Int.dvd_mul_left _ _)
  have hbv' : validStartTick (base + 0 * tia ts) ts = false → ∀ y, validStartTick y ts = false := fun h => by
    rw [Int.zero_mul, Int.add_zero, hbv] at h; cases h
  have down : ∀ o o' : Int, o' = o - 1 → base + o * tia ts ≤ MAX_TICK_INDEX → validStartTick (base + o * tia ts) ts = false →
      validStartTick (base + o' * tia ts) ts = false := fun o o' ho hle h => by
    rw [ho, Int.sub_mul, Int.one_mul, ← Int.add_sub_assoc]
    exact invalid_down _ ts hts (hdo o) hle h
  have up : ∀ o o' : Int, o' = o + 1 → MIN_TICK_INDEX ≤ base + o * tia ts → validStartTick (base + o * tia ts) ts = false →
      validStartTick (base + o' * tia ts) ts = false := fun o o' ho hge h => by
    rw [ho, Int.add_mul, Int.one_mul, ← Int.add_assoc]
    exact invalid_up _ ts hts (hdo o) hge h
  constructor
  · simp only [List.map_cons, List.map_nil]
    exact consecDown_prefix _ _ ts (consecDown3 _ _ _ ts (by omega) (by omega))
      (filter3_prefix _ _ _ _ (fun h => hbv' h _) (down (-1) (-2) rfl (by omega)))
  · by_cases hs : cur + (ts : Int) ≥ base + tia ts
    · rw [if_pos hs]
      simp only [List.map_cons, List.map_nil]
      exact consecUp_prefix _ _ ts (consecUp3 _ _ _ ts (by omega) (by omega))
        (filter3_prefix _ _ _ _ (up 1 2 rfl (by omega)) (up 2 3 rfl (by omega)))
    · rw [if_neg hs]
      simp only [List.map_cons, List.map_nil]
      exact consecUp_prefix _ _ ts (consecUp3 _ _ _ ts (by omega) (by omega))
        (filter3_prefix _ _ _ _ (fun h => hbv' h _) (up 1 2 rfl (by omega)))

theorem mem_takeWhile_true {α} (p : α → Bool) (l : List α) (a : α) (h : a ∈ l.takeWhile p) : p a = true := by
  have := @List.all_takeWhile α p l
  exact List.all_eq_true.mp this a h

theorem takeWhile_stop {α} (p : α → Bool) (l : List α) (d : α) (h : (l.takeWhile p).length < l.length) :
    p (l.getD (l.takeWhile p).length d) = false := by
  induction l with
  | nil => simp at h
  | cons x r ih =>
    by_cases hx : p x = true
    · rw [List.takeWhile_cons_of_pos hx] at h ⊢
      simp only [List.length_cons, List.getD_cons_succ] at h ⊢
      exact ih (by omega)
    · rw [List.takeWhile_cons_of_neg hx]
      simpa using hx

/-- what `try_build` returns: a non-empty PREFIX of the required start indexes, every element of
    which is covered by a supplied account, stopping at the first one that is not — so the swap can
    never skip over a missing array — and nothing when a foreign array is among the accounts -/
theorem buildSeq_spec (cur : Int) (ts : Nat) (aToB : Bool) (accts : List Supplied) (seq : List Int)
    (h : buildSeq cur ts aToB accts = .ok seq) :
    seq ≠ [] ∧ seq <+: startTickIndexes cur ts aToB ∧ (∀ s ∈ seq, ∃ a ∈ accts, a.covers s = true) ∧
    (∀ a ∈ accts, a.isForeign = false) ∧
    (seq.length < (startTickIndexes cur ts aToB).length →
      ∀ a ∈ accts, a.covers ((startTickIndexes cur ts aToB).getD seq.length 0) = false) := by
  unfold buildSeq at h
  by_cases hf : accts.any Supplied.isForeign = true
  · rw [if_pos hf] at h; cases h
  · rw [if_neg hf] at h
    simp only [] at h
    split at h
    · cases h
    · rename_i hne
      cases h
      refine ⟨?_, List.takeWhile_prefix _, ?_, ?_, ?_⟩
      · intro he; apply hne; rw [he]; rfl
      · intro s hs
        have := mem_takeWhile_true _ _ s hs
        exact List.any_eq_true.mp this
      · intro a ha
        cases hfa : a.isForeign with
        | false => rfl
        | true => exact absurd (List.any_eq_true.mpr ⟨a, ha, hfa⟩) hf
      · intro hlt a ha
        have := takeWhile_stop (fun s => accts.any (·.covers s)) (startTickIndexes cur ts aToB) 0 hlt
        cases hc : a.covers ((startTickIndexes cur ts aToB).getD
            (List.takeWhile (fun s => accts.any (·.covers s)) (startTickIndexes cur ts aToB)).length 0) with
        | false => rfl
        | true => rw [List.any_eq_true.mpr ⟨a, ha, hc⟩] at this; cases this

theorem any_congr {α} (p : α → Bool) (l1 l2 : List α) (h : ∀ a, a ∈ l1 ↔ a ∈ l2) : l1.any p = l2.any p := by
  cases h1 : l1.any p with
  | true =>
    obtain ⟨a, ha, hp⟩ := List.any_eq_true.mp h1
    exact (List.any_eq_true.mpr ⟨a, (h a).mp ha, hp⟩).symm
  | false =>
    cases h2 : l2.any p with
    | false => rfl
    | true =>
      obtain ⟨a, ha, hp⟩ := List.any_eq_true.mp h2
      rw [List.any_eq_true.mpr ⟨a, (h a).mpr ha, hp⟩] at h1; cases h1

/-- **packaging independence of the sequence**: the order of the supplied accounts, duplicates and
    extra (supplemental or unused) accounts do not matter — only WHICH accounts are supplied -/
theorem buildSeq_congr (cur : Int) (ts : Nat) (aToB : Bool) (l1 l2 : List Supplied) (h : ∀ a, a ∈ l1 ↔ a ∈ l2) :
    buildSeq cur ts aToB l1 = buildSeq cur ts aToB l2 := by
  unfold buildSeq
  rw [any_congr _ l1 l2 h]
  have : (fun s => l1.any (·.covers s)) = (fun s => l2.any (·.covers s)) := by
    funext s; exact any_congr _ l1 l2 h
  rw [this]

/-- an initialized array and an empty account at its address are interchangeable for the builder
    (what differs is only whether ticks can be read from it: C10's `zeroed` theorem below) -/
theorem buildSeq_own_uninit (cur : Int) (ts : Nat) (aToB : Bool) (pre post : List Supplied) (s : Int) :
    buildSeq cur ts aToB (pre ++ .own s :: post) = buildSeq cur ts aToB (pre ++ .uninit s :: post) := by
  unfold buildSeq
  simp [List.any_append, Supplied.isForeign, Supplied.covers]


/-! ### the zeroed proxy -/

/-- `ZeroedTickArray::get_next_init_tick_index` -/
def zeroedNextInit (start : Int) (ts : Nat) (tickIndex : Int) (aToB : Bool) : R (Option Int) :=
  let span : Int := (TICK_ARRAY_SIZE : Int) * ts
  let lower := if !aToB then start - ts else start
  let upper := if !aToB then start + span - ts else start + span
  if !(tickIndex ≥ lower && tickIndex < upper) then .error .InvalidTickArraySequence
  else if ts = 0 then .error .InvalidTickSpacing
  else .ok none

theorem scanDown_eq_none (m : TickMap) (start : Int) (ts k : Nat)
    (h : ∀ i, i ≤ k → initAt m (start + (i : Int) * ts) = false) : scanDown m start ts k = none := by
  induction k with
  | zero =>
    unfold scanDown
    have := h 0 (Nat.le_refl _)
    simp [initAt] at this
    simp [this]
  | succ k ih =>
    unfold scanDown
    have := h (k + 1) (Nat.le_refl _)
    simp only [initAt] at this
    simp only [this, Bool.false_eq_true, if_false]
    exact ih (fun i hi => h i (by omega))

theorem scanUp_eq_none (m : TickMap) (start : Int) (ts : Nat) (n k : Nat)
    (h : ∀ i, k ≤ i → i < k + n → initAt m (start + (i : Int) * ts) = false) : scanUp m start ts k n = none := by
  induction n generalizing k with
  | zero => rfl
  | succ n ih =>
    unfold scanUp
    have := h k (Nat.le_refl _) (by omega)
    simp only [initAt] at this
    simp only [this, Bool.false_eq_true, if_false]
    exact ih (k + 1) (fun i h1 h2 => h i (by omega) (by omega))

/-- **an array holding no initialized tick and the zeroed proxy of an account that does not exist
    answer every search identically** (same `None`, same range errors) -/
theorem zeroed_eq (m : TickMap) (start : Int) (ts : Nat) (t : Int) (aToB : Bool)
    (h : ∀ i : Nat, i < 88 → initAt m (start + (i : Int) * ts) = false) :
    arrayNextInit m start ts t aToB = zeroedNextInit start ts t aToB := by
  have hT : TICK_ARRAY_SIZE = 88 := rfl
  unfold arrayNextInit zeroedNextInit
  simp only []
  -- the range and spacing checks are the same; past them, the scan of an empty array finds nothing
  generalize (!(decide (t ≥ if (!aToB) = true then start - (ts : Int) else start) &&
    decide (t < if (!aToB) = true then start + ((TICK_ARRAY_SIZE : Nat) : Int) * ts - ts else start + ((TICK_ARRAY_SIZE : Nat) : Int) * ts))) = out
  generalize (if aToB = true then (t - start) / (ts : Int) else (t - start) / (ts : Int) + 1) = off
  cases out with
  | true => rfl
  | false =>
    simp only [Bool.false_eq_true, if_false]
    by_cases hz : ts = 0
    · rw [if_pos hz, if_pos hz]
    · rw [if_neg hz, if_neg hz]
      by_cases ho : (decide (off < 0) || decide (off ≥ ((TICK_ARRAY_SIZE : Nat) : Int))) = true
      · rw [if_pos ho]
      · rw [if_neg ho]
        simp only [Bool.or_eq_true, decide_eq_true_eq, not_or, Int.not_lt, ge_iff_le, Int.not_le, hT] at ho
        cases aToB with
        | true => rw [if_pos rfl, scanDown_eq_none]; exact fun i hi => h i (by omega)
        | false => rw [if_neg (by simp), scanUp_eq_none]; exact fun i _ h2 => h i (by omega)
/-! ### what one step can cross -/

/-- a step of the swap loop changes the tick map and the liquidity only by crossing the tick the
    sequence search returned (`nextTickIdx`), only if that tick is initialized and held by the
    array the search found it in, and only when the price reached that tick's price; it then
    applies exactly that tick's `liquidity_net` (negated when moving left) -/
theorem cross_only_target (c : SwapCtx) (s : SwapSt) (sc : SwapStep) (fgIn nai : Nat) (nti : Int) (ntp : Nat) (cr : CrossRes)
    (h : stepCross c s sc fgIn nai nti ntp = .ok cr) :
    (cr.ticks = s.ticks ∧ cr.liq = s.liq) ∨
    (sc.nextPrice = ntp ∧ initAt s.ticks nti = true ∧
      (∃ start, c.arrays[nai]? = some start ∧ inArrayUsable start c.ts nti = true) ∧
      (∃ upd, cr.ticks = s.ticks.set nti upd) ∧
      addLiquidityDelta s.liq (if c.aToB then -(s.ticks.get nti).net else (s.ticks.get nti).net) = .ok cr.liq) := by
  unfold stepCross at h
  by_cases hp : sc.nextPrice = ntp
  · rw [if_pos hp] at h
    simp only [] at h
    cases hst : c.arrays[nai]? with
    | none =>
      rw [hst] at h
      simp at h
    | some start =>
      rw [hst] at h
      simp only [] at h
      by_cases hti : (inArrayUsable start c.ts nti && (s.ticks.get nti).initialized) = true
      · rw [if_pos hti] at h
        cases hal : addLiquidityDelta s.liq (if c.aToB = true then -(s.ticks.get nti).net else (s.ticks.get nti).net) with
        | error e => rw [hal] at h; cases h
        | ok l =>
          rw [hal] at h
          simp only [] at h
          by_cases hz : c.ts = 0
          · rw [if_pos hz] at h; cases h
          · rw [if_neg hz] at h
            cases h
            rw [Bool.and_eq_true] at hti
            exact Or.inr ⟨hp, hti.2, ⟨start, rfl, hti.1⟩, ⟨_, rfl⟩, rfl⟩
      · rw [if_neg hti] at h
        simp only [] at h
        by_cases hz : c.ts = 0
        · rw [if_pos hz] at h; cases h
        · rw [if_neg hz] at h; cases h; exact Or.inl ⟨rfl, rfl⟩
  · rw [if_neg hp] at h
    by_cases hq : sc.nextPrice ≠ s.price
    · rw [if_pos hq] at h; cases h; exact Or.inl ⟨rfl, rfl⟩
    · rw [if_neg hq] at h; cases h; exact Or.inl ⟨rfl, rfl⟩

end WP.C10
