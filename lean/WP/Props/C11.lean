import WP.Props.HistStep
import WP.Props.C07
/-
  Property C11 — rewards accrue at the set emission rate, pro rata to in-range liquidity.

  The reward accumulators use the same `growthInside` / crossing / credit functions as the fee
  accumulators, so the range-tracking lemmas of C07 (cross_*, inside_tracks_in_range,
  inside_const_*, fresh_inside_zero, credit_le) apply verbatim to every reward.
  Proved here about the model: the global accrual rule, the timestamp guard, collect = min(owed,
  vault) with the remainder left owed, and the set-emissions guard (vault must hold a day of
  emissions; accrual at the old rate is settled first).
-/
namespace WP.C11
open WP

/-- the accrual of one initialized reward over `dt` seconds with in-range liquidity `liq`:
    ⌊dt·emissions/liq⌋, or 0 when the product does not fit 128 bits (dropped, never inflated) -/
def accrual (dt emissions liq : Nat) : Nat :=
  if dt * emissions > U128_MAX then 0 else dt * emissions / liq

theorem mulDivOr0_eq (dt e liq : Nat) (hl : liq ≠ 0) : mulDivOr0 dt e liq = accrual dt e liq := by
  unfold mulDivOr0 checkedMulDiv checkedMulDivRoundUpIf accrual
  rw [if_neg hl]
  by_cases c : dt * e > U128_MAX
  · rw [if_pos c, if_pos c]
  · rw [if_neg c, if_neg c]; rfl

/-- C11(a): an operation carrying a timestamp earlier than the last update fails. -/
theorem timestamp_guard (p : PoolD) (ts : Nat) (h : ts < p.rewardTs) : nextRewardInfos p ts = .error .InvalidTimestamp := by
  unfold nextRewardInfos; rw [if_pos h]

/-- C11(b): nothing accrues while in-range liquidity is zero or no time has passed. -/
theorem no_accrual (p : PoolD) (ts : Nat) (h : ¬ ts < p.rewardTs) (hz : p.liq = 0 ∨ ts = p.rewardTs) :
    nextRewardInfos p ts = .ok p.rewards := by
  unfold nextRewardInfos
  rw [if_neg h, if_pos]
  rcases hz with a | a
  · rw [decide_eq_true a]; rfl
  · rw [decide_eq_true a, Bool.or_true]

/-- C11(c): otherwise every initialized reward advances by ⌊dt·emissions/liquidity⌋ (0 on overflow),
    uninitialized rewards do not move, and emissions are unchanged. -/
theorem accrual_spec (p : PoolD) (ts : Nat) (h : ¬ ts < p.rewardTs) (hl : p.liq ≠ 0) (ht : ts ≠ p.rewardTs) :
    nextRewardInfos p ts = .ok (p.rewards.map fun r =>
      if r.initialized then { r with growth := wadd r.growth (accrual (ts - p.rewardTs) r.emissions p.liq) } else r) := by
  unfold nextRewardInfos
  rw [if_neg h, if_neg (by rw [decide_eq_false hl, decide_eq_false ht]; exact Bool.false_ne_true)]
  simp only []
  congr 1
  apply List.map_congr_left
  intro r _
  cases r.initialized with
  | false => rfl
  | true => rw [mulDivOr0_eq _ _ _ hl]; rfl

/-- (a)–(c) together, as an inversion of a successful `next_whirlpool_reward_infos` -/
theorem nextRewardInfos_inv {p : PoolD} {now : Nat} {R : List RewardInfo} (h : nextRewardInfos p now = .ok R) :
    p.rewardTs ≤ now ∧ (R = p.rewards ∨ (p.liq ≠ 0 ∧ R = p.rewards.map fun r =>
      if r.initialized then { r with growth := wadd r.growth (accrual (now - p.rewardTs) r.emissions p.liq) } else r)) := by
  by_cases c1 : now < p.rewardTs
  · rw [timestamp_guard p now c1] at h; cases h
  · refine ⟨Nat.le_of_not_lt c1, ?_⟩
    by_cases c2 : p.liq = 0 ∨ now = p.rewardTs
    · rw [no_accrual p now c1 c2] at h
      cases h
      exact Or.inl rfl
    · have hl : p.liq ≠ 0 := fun e => c2 (Or.inl e)
      rw [accrual_spec p now c1 hl (fun e => c2 (Or.inr e))] at h
      cases h
      exact Or.inr ⟨hl, rfl⟩

/-- C11(d): collecting a reward pays min(owed, vault balance); the vault is debited by exactly that. -/
theorem collect_is_min (s s' : HistState) (id i : Nat) (outs : List Nat) (pos : PositionD)
    (hp : posGet s.positions id = some pos)
    (h : histStep s (.crew id i) = .ok (s', outs)) :
    outs = [min (pos.rewards.getD i {}).owed (min (s.rewardVaults.getD i 0) U64_MAX)] ∧
    s'.rewardVaults = s.rewardVaults.set i
      (s.rewardVaults.getD i 0 - min (pos.rewards.getD i {}).owed (min (s.rewardVaults.getD i 0) U64_MAX)) := by
  obtain ⟨_, pos', hp', hs⟩ := histStep_crew_ok h
  rw [hp] at hp'
  cases hp'
  obtain ⟨rfl, rfl⟩ := hs _ rfl
  exact ⟨rfl, rfl⟩

/-- C11(e): changing the emission rate requires the vault to hold a day of emissions, and first
    settles accrual at the old rate (the new state's growth is `nextRewardInfos` of the old state). -/
theorem set_emissions_guard (s s' : HistState) (i e topup : Nat) (h : histReward s i e topup = (s', .ok ())) :
    i < 3 ∧ (∃ perDay, checkedMulShiftRightRoundUpIf 86400 e false = .ok perDay ∧ perDay ≤ s'.rewardVaults.getD i 0) ∧
    s'.pool.rewardTs = s'.now := by
  rcases histReward_eq s i e topup with ⟨er, h'⟩ | ⟨hi, r1, _, ⟨er, h'⟩ | ⟨perDay, next, hpd, hv, _, h'⟩⟩
  · rw [h'] at h; cases h
  · rw [h'] at h; cases h
  · rw [h'] at h
    cases h
    exact ⟨hi, ⟨perDay, hpd, hv⟩, rfl⟩

end WP.C11
