import WP.Model.PinoOffset
import WP.Gen.Layouts
/-
  Property C12 — the Pinocchio fast path and the Anchor implementation agree bit for bit.

  The port differs from the Anchor code in exactly three structural ways; each is decided here:
   1. it reads and writes accounts through #[repr(C)] byte-array views instead of Borsh / zero-copy
      types: the two sets of declarations are regenerated from the source on every run
      (Gen/Layouts.lean) and their leaf layouts (path, kind, offset, size) are computed and compared
      (`*_layout_eq`), with total lengths 653 / 216 / 9988 / 60-byte dynamic header, discriminators
      (`discriminators_eq`) and the getters' field/integer type (`getters_ok`);
   2. it computes the tick offset with a division-free shift-subtract loop: `pino_offset_spec` proves
      it equal to the Anchor check-and-divide for every tick, spacing and (valid) start index;
   3. the dynamic array is accessed through its own byte routine: C13 (`pino_eq`, `update_refines`).
  The ported manager arithmetic itself (pinocchio/ported/manager_liquidity_manager.rs) is tied to the
  SAME Lean model functions as the Anchor managers by the correspondence harness, which runs both on
  identical bytes (families pmod, hist, dyn, reset) and compares them with each other and the model.
-/
namespace WP.C12
open WP WP.Gen

/-! ### 2. the division-free offset routine -/

theorem pinoLoop_stop (fuel ts rem off d m : Nat) (h : d < ts) : pinoLoop fuel ts rem off d m = (rem, off) := by
  cases fuel with
  | zero => rfl
  | succ f => rw [pinoLoop, if_neg (Nat.not_le.mpr h)]

/-- one iteration: a divisor above half the remainder is subtracted at most once -/
theorem pinoLoop_step (f ts rem off d m : Nat) (hts : 0 < ts) (hd : ts ≤ d) (hr : rem < d * 2) :
    pinoLoop (f + 1) ts rem off d m = pinoLoop f ts (rem % d) (off + rem / d * m) (d / 2) (m / 2) := by
  have h0 : 0 < d := Nat.lt_of_lt_of_le hts hd
  rw [pinoLoop, if_pos hd]
  by_cases h : rem ≥ d
  · have h1 : rem / d = 1 := Nat.div_eq_of_lt_le (by omega) (by omega)
    have h2 : rem % d = rem - d := by rw [Nat.mod_eq_sub_mod h, Nat.mod_eq_of_lt (by omega)]
    rw [if_pos h, h1, h2, Nat.one_mul]
  · have h' : rem < d := Nat.lt_of_not_le h
    rw [if_neg h, Nat.mod_eq_of_lt h', Nat.div_eq_of_lt h', Nat.zero_mul, Nat.add_zero]

theorem pinoLoop_spec (ts : Nat) (hts : 0 < ts) : ∀ (k fuel rem off : Nat), fuel ≥ k + 2 → rem < ts * 2 ^ (k + 1) →
    pinoLoop fuel ts rem off (ts * 2 ^ k) (2 ^ k) = (rem % ts, off + rem / ts) := by
  intro k
  induction k with
  | zero =>
    intro fuel rem off hf hr
    obtain ⟨f, rfl⟩ : ∃ f, fuel = f + 1 := ⟨fuel - 1, by omega⟩
    rw [Nat.pow_zero, Nat.mul_one, pinoLoop_step f ts rem off ts 1 hts (Nat.le_refl _) hr,
      pinoLoop_stop _ _ _ _ _ _ (Nat.div_lt_self hts Nat.one_lt_two), Nat.mul_one]
  | succ k ih =>
    intro fuel rem off hf hr
    obtain ⟨f, rfl⟩ : ∃ f, fuel = f + 1 := ⟨fuel - 1, by omega⟩
    have hM : 2 ^ (k + 1) / 2 = 2 ^ k := by rw [Nat.pow_succ, Nat.mul_div_cancel _ Nat.two_pos]
    have hD : ts * 2 ^ (k + 1) / 2 = ts * 2 ^ k := by rw [Nat.pow_succ, ← Nat.mul_assoc, Nat.mul_div_cancel _ Nat.two_pos]
    have hpos : 0 < ts * 2 ^ (k + 1) := Nat.mul_pos hts (Nat.two_pow_pos _)
    rw [pinoLoop_step f ts rem off _ _ hts (Nat.le_mul_of_pos_right ts (Nat.two_pow_pos _)) (by rw [Nat.mul_assoc, ← Nat.pow_succ]; exact hr),
      hD, hM, ih f _ _ (by omega) (Nat.mod_lt _ hpos)]
    -- quotient and remainder by `ts·2^(k+1)`, then by `ts`, are quotient and remainder by `ts`
    rw [Nat.mod_mul_right_mod, Nat.add_assoc, Nat.mod_mul_right_div_self, ← Nat.div_div_eq_div_mul, Nat.div_add_mod']

theorem dvd_sub_tmod (a b : Int) : b ∣ a - Int.tmod a b :=
  ⟨Int.tdiv a b, by have := Int.mul_tdiv_add_tmod a b; omega⟩

theorem validStart_dvd (t : Int) (ts : Nat) (h : validStartTick t ts = true) : ((TICK_ARRAY_SIZE : Nat) : Int) * ts ∣ t := by
  simp only [validStartTick] at h
  split at h
  · split at h
    · cases h
    · rw [of_decide_eq_true h, ← Int.sub_sub]
      exact Int.dvd_sub (dvd_sub_tmod _ _) (Int.dvd_refl _)
  · exact Int.dvd_of_tmod_eq_zero (of_decide_eq_true h)

theorem validStart_mod (t : Int) (ts : Nat) (hts : 0 < ts) (h : validStartTick t ts = true) : t % (ts : Int) = 0 :=
  Int.emod_eq_zero_of_dvd (Int.dvd_trans (Int.dvd_mul_left _ _) (validStart_dvd t ts h))

theorem isUsableTick_eq (t : Int) (ts : Nat) : isUsableTick t ts = (!outOfBounds t && decide (t % (ts : Int) = 0)) := by
  rw [isUsableTick, outOfBounds, Bool.not_not]

/-- **the division-free routine equals the Anchor check-and-divide**: for every tick, spacing and
    start index that is a multiple of the spacing, `check_is_usable_tick_and_get_offset` returns
    `Some(offset)` exactly when the Anchor accessors accept the tick, with the same offset -/
theorem pino_offset_spec (start tick : Int) (ts : Nat) (hs : start % (ts : Int) = 0) :
    pinoUsableOffset start tick ts = (slotOf start tick ts).toOption := by
  rw [pinoUsableOffset, slotOf, isUsableTick_eq]
  cases hb : inBounds start tick ts with
  | false => rfl
  | true =>
    cases ho : outOfBounds tick with
    | true => rfl
    | false =>
      have hT : ((TICK_ARRAY_SIZE : Nat) : Int) = 88 := rfl
      obtain ⟨h1, h2⟩ : start ≤ tick ∧ tick < start + (TICK_ARRAY_SIZE : Int) * ts := by simpa [inBounds] using hb
      rw [hT] at h2
      have hts : 0 < ts := Nat.pos_of_ne_zero (by rintro rfl; omega)
      -- the distance from the start is a natural number `n`; the loop divides it by the spacing
      obtain ⟨n, hn⟩ : ∃ n : Nat, tick - start = n := Int.eq_ofNat_of_zero_le (by omega)
      have hloop := pinoLoop_spec ts hts 6 32 n 0 (by decide) (by omega)
      have hrem : tick % (ts : Int) = ((n % ts : Nat) : Int) := by
        rw [show tick = n + start by omega, Int.add_emod, hs, Int.add_zero, Int.emod_emod, Int.natCast_emod]
      rw [hn, Int.natAbs_natCast, show ts * 64 = ts * 2 ^ 6 from rfl, show (64 : Nat) = 2 ^ 6 from rfl, hloop, hrem,
        ← Int.natCast_ediv, Int.toNat_natCast, if_neg (Nat.ne_of_gt hts), if_neg (Int.not_lt.mpr (Int.natCast_nonneg _))]
      simp only [Int.natCast_eq_zero]
      by_cases hu : n % ts = 0 <;> simp [hu, Except.toOption]

/-! ### 1. byte layouts (regenerated from both sets of declarations on every run) -/

def aEnv : StructEnv := anchorStructs.map fun x => (x.1, x.2.2)
def pEnv : StructEnv := pinoStructs

def discLeaf : Leaf := { path := [.field "discriminator"], kind := "bytes", offset := 0, size := 8 }

def lookupL (l : List (String × List Nat)) (n : String) : Option (List Nat) :=
  match l with
  | [] => none
  | (k, v) :: r => if k == n then some v else lookupL r n

def fieldKind (fs : List (String × Ty)) (f : String) : Option Ty :=
  match fs with
  | [] => none
  | (k, t) :: r => if k == f then some t else fieldKind r f

/-- a getter reads the field of its own name, with the integer type of that field -/
def getterOk (g : String × String × String × String × String) : Bool :=
  let (st, name, ret, field, conv) := g
  if field == "?" then
    -- computed getters, reviewed by hand: PDA seeds; reward initialized = (mint != Pubkey::default())
    (st == "MemoryMappedWhirlpool" && name == "seeds") || (st == "MemoryMappedWhirlpoolRewardInfo" && name == "initialized")
  else
    name == field &&
    match lookupStruct pEnv st with
    | none => false
    | some fs =>
      match fieldKind fs field, conv with
      | some (.prim k _), "ref" => k == "pubkey" && ret == "&Pubkey"
      | some (.arr _ _), "ref" => true
      | some (.prim k _), "nonzero" => k == "bool" && ret == "bool"
      | some (.arr (.prim k _) 3), "u128-array" => k == "u128"
      | some (.prim k _), c => k == c && ret == c
      | _, _ => false

/-- Everything decided about the regenerated declarations (Gen/Layouts.lean), in one kernel evaluation: each
    layout is computed once for the comparison, its total size and its length. -/
theorem layouts_ok :
    layout pEnv "MemoryMappedWhirlpool" = discLeaf :: layout aEnv "Whirlpool" 8 ∧
    layout pEnv "MemoryMappedPosition" = discLeaf :: layout aEnv "Position" 8 ∧
    layout pEnv "MemoryMappedTick" = layout aEnv "Tick" ∧
    layout pEnv "MemoryMappedFixedTickArray" = discLeaf :: layout aEnv "TickArray" 8 ∧
    layout pEnv "MemoryMappedDynamicTickArray" =
      discLeaf :: layout aEnv "DynamicTickArray" 8 ++ [{ path := [.field "ticks"], kind := "bytes", offset := 60, size := 113 * 88 }] ∧
    (layout pEnv "MemoryMappedTick").tail = layout aEnv "DynamicTickData" 1 ∧
    (totalSize (layout pEnv "MemoryMappedWhirlpool") = 653 ∧ totalSize (layout pEnv "MemoryMappedPosition") = 216 ∧
     totalSize (layout pEnv "MemoryMappedFixedTickArray") = 9988 ∧ totalSize (layout pEnv "MemoryMappedTick") = 113 ∧
     totalSize (layout pEnv "MemoryMappedDynamicTickArray") = 10004 ∧ totalSize (layout aEnv "DynamicTickData") = 112) ∧
    (lookupL pinoDiscriminators "MemoryMappedWhirlpool" = lookupL anchorDiscriminators "Whirlpool" ∧
     lookupL pinoDiscriminators "MemoryMappedPosition" = lookupL anchorDiscriminators "Position" ∧
     (lookupL anchorDiscriminators "Whirlpool").isSome ∧ (lookupL anchorDiscriminators "Position").isSome) ∧
    pinoGetters.all getterOk = true ∧
    ((layout pEnv "MemoryMappedWhirlpool").length = 34 ∧ pinoGetters.length = 37) := by
  decide +kernel

/-- MemoryMappedWhirlpool = 8 discriminator bytes + the Borsh layout of `Whirlpool`, leaf by leaf
    (same field paths, same integer kinds, same offsets, same sizes) -/
theorem whirlpool_layout_eq : layout pEnv "MemoryMappedWhirlpool" = discLeaf :: layout aEnv "Whirlpool" 8 :=
  let ⟨h, _⟩ := layouts_ok; h

theorem position_layout_eq : layout pEnv "MemoryMappedPosition" = discLeaf :: layout aEnv "Position" 8 :=
  let ⟨_, h, _⟩ := layouts_ok; h

theorem tick_layout_eq : layout pEnv "MemoryMappedTick" = layout aEnv "Tick" :=
  let ⟨_, _, h, _⟩ := layouts_ok; h

theorem fixed_array_layout_eq : layout pEnv "MemoryMappedFixedTickArray" = discLeaf :: layout aEnv "TickArray" 8 :=
  let ⟨_, _, _, h, _⟩ := layouts_ok; h

theorem dynamic_array_layout_eq : layout pEnv "MemoryMappedDynamicTickArray" =
    discLeaf :: layout aEnv "DynamicTickArray" 8 ++ [{ path := [.field "ticks"], kind := "bytes", offset := 60, size := 113 * 88 }] :=
  let ⟨_, _, _, _, h, _⟩ := layouts_ok; h

/-- an initialized dynamic slot (tag byte + Borsh `DynamicTickData`) read through a
    `MemoryMappedTick` pointer: the fields after the first byte line up -/
theorem dynamic_tick_layout_eq : (layout pEnv "MemoryMappedTick").tail = layout aEnv "DynamicTickData" 1 :=
  let ⟨_, _, _, _, _, h, _⟩ := layouts_ok; h

theorem sizes :
    totalSize (layout pEnv "MemoryMappedWhirlpool") = 653 ∧ totalSize (layout pEnv "MemoryMappedPosition") = 216 ∧
    totalSize (layout pEnv "MemoryMappedFixedTickArray") = 9988 ∧ totalSize (layout pEnv "MemoryMappedTick") = 113 ∧
    totalSize (layout pEnv "MemoryMappedDynamicTickArray") = 10004 ∧ totalSize (layout aEnv "DynamicTickData") = 112 :=
  let ⟨_, _, _, _, _, _, h, _⟩ := layouts_ok; h

/-- the discriminator literals of the Pinocchio views are sha256("account:<Name>")[..8] of the Anchor types -/
theorem discriminators_eq :
    lookupL pinoDiscriminators "MemoryMappedWhirlpool" = lookupL anchorDiscriminators "Whirlpool" ∧
    lookupL pinoDiscriminators "MemoryMappedPosition" = lookupL anchorDiscriminators "Position" ∧
    (lookupL anchorDiscriminators "Whirlpool").isSome ∧ (lookupL anchorDiscriminators "Position").isSome :=
  let ⟨_, _, _, _, _, _, _, h, _⟩ := layouts_ok; h

theorem getters_ok : pinoGetters.all getterOk = true := let ⟨_, _, _, _, _, _, _, _, h, _⟩ := layouts_ok; h

-- Non-vacuity: the tables are populated
example : (layout pEnv "MemoryMappedWhirlpool").length = 34 ∧ pinoGetters.length = 37 := let ⟨_, _, _, _, _, _, _, _, _, h⟩ := layouts_ok; h

end WP.C12
