import WP.Model.DynArray
import WP.Props.PoolOps
/-
  Property C13 — a dynamic tick array behaves exactly like a fixed one, and its encoding stays
  well formed.

  Model: WP/Model/DynArray.lean (bytes; `rotR`/`rotL` are slice::rotate_right/left; the data area
  is a byte list of the length the accessor views: 9952 for the Anchor loader, 9944 for Pinocchio).
  Abstract state: `es : List Slot` (88 slots, `none` or the 112 payload bytes).

  Proved here, for EVERY array state satisfying `WF` (in particular every state reachable from a
  new array by any sequence of updates — `run_refines`), every slot, every bitmap prefix, every
  padding content and both region lengths:
   * `update_refines`: update_tick keeps the encoding well formed and changes exactly the addressed
     slot (initialize = insert 112 bytes, de-initialize = remove them, modify = overwrite in place);
     it never fails where the fixed array succeeds and fails with the same error otherwise;
   * `get_refines`, `next_refines`: get_tick / get_next_init_tick_index answer as the fixed array
     holding the decoded slots;
   * `used_len`: the used length is 148 + 112 × (number of initialized ticks), and the bitmap marks
     exactly the initialized slots (`WF.bits`);
   * `dec_enc`: decoding the Borsh payload returns the written tick (so tick CONTENTS agree);
   * `run_refines`: by induction over an arbitrary operation sequence, the two arrays give the same
     outputs and the dynamic one stays well formed.
-/
set_option linter.unusedSimpArgs false
namespace WP.C13
open WP

abbrev Slot := Option (List Nat)

def encSlot : Slot → List Nat
  | none => [0]
  | some p => 1 :: p

def encSlots (es : List Slot) : List Nat := es.flatMap encSlot
def countInit (es : List Slot) : Nat := es.countP Option.isSome
def absTick : Slot → TickData
  | none => {}
  | some p => decTick p

def absArr (start : Int) (es : List Slot) : FixArr := { start := start, ticks := es.map absTick }

structure WF (a : DynArr) (es : List Slot) : Prop where
  len : es.length = 88
  pay : ∀ p, some p ∈ es → p.length = 112
  bits : ∀ k, a.bitmap.testBit k = (es.getD k none).isSome
  data : ∃ pad, a.data = encSlots es ++ pad
  region : a.data.length ≥ 113 * 88

/-! ### byte lists -/

theorem encSlots_append (a b : List Slot) : encSlots (a ++ b) = encSlots a ++ encSlots b := by
  simp [encSlots]

theorem encSlots_cons (x : Slot) (b : List Slot) : encSlots (x :: b) = encSlot x ++ encSlots b := by
  simp [encSlots]

theorem encSlots_set (es : List Slot) (i : Nat) (hi : i < es.length) (y : Slot) :
    encSlots (es.set i y) = encSlots (es.take i) ++ (encSlot y ++ encSlots (es.drop (i + 1))) := by
  rw [List.set_eq_take_append_cons_drop, if_pos hi, encSlots_append, encSlots_cons]

theorem encSlots_length (es : List Slot) (h : ∀ p, some p ∈ es → p.length = 112) :
    (encSlots es).length = es.length + 112 * countInit es := by
  induction es with
  | nil => simp [encSlots, countInit]
  | cons x r ih =>
    have ihr := ih (fun p hp => h p (List.mem_cons_of_mem _ hp))
    rw [encSlots_cons, List.length_append, ihr]
    cases x with
    | none => simp [encSlot, countInit]; omega
    | some p =>
      have := h p (List.mem_cons_self)
      simp [encSlot, countInit, this]; omega

theorem countInit_le (es : List Slot) : countInit es ≤ es.length := List.countP_le_length

theorem countInit_lt (es : List Slot) (h : none ∈ es) : countInit es < es.length :=
  Nat.lt_of_le_of_ne (countInit_le es) fun hc => Bool.noConfusion (List.countP_eq_length.mp hc _ h)

theorem rotR_append (A B : List Nat) (n : Nat) (h : B.length = n) : rotR n (A ++ B) = B ++ A := by
  unfold rotR
  have : (A ++ B).length - n = A.length := by simp [h]
  rw [this, List.drop_left, List.take_left]

theorem rotL_append (A B : List Nat) (n : Nat) (h : A.length = n) : rotL n (A ++ B) = B ++ A := by
  unfold rotL
  subst h
  rw [List.drop_left, List.take_left]

theorem exists_append_of_length (l : List Nat) (m n : Nat) (h : l.length = m + n) :
    ∃ A B, l = A ++ B ∧ A.length = m ∧ B.length = n :=
  ⟨l.take m, l.drop m, (List.take_append_drop m l).symm, List.length_take_of_le (by omega),
    by rw [List.length_drop]; omega⟩

theorem getD_at (P : List Nat) (t : Nat) (r : List Nat) : (P ++ t :: r).getD P.length 0 = t := by
  simp [List.getD_eq_getElem?_getD]

theorem writeAt_over (P old new R : List Nat) (h : new.length = old.length) :
    writeAt (P ++ (old ++ R)) P.length new = P ++ (new ++ R) := by
  unfold writeAt
  rw [List.take_left, List.append_assoc, h, ← List.length_append, ← List.append_assoc P old R, List.drop_left]

/-! ### bitmap -/

theorem popBelow_succ (bm i : Nat) : popBelow bm (i + 1) = popBelow bm i + (if bm.testBit i then 1 else 0) := by
  unfold popBelow
  rw [List.range_succ, List.countP_append]
  simp [List.countP_cons]

theorem popBelow_eq (bm : Nat) (es : List Slot) (hb : ∀ k, bm.testBit k = (es.getD k none).isSome) (i : Nat) :
    popBelow bm i = countInit (es.take i) := by
  induction i with
  | zero => simp [popBelow, countInit]
  | succ i ih =>
    rw [popBelow_succ, ih, List.take_add_one, hb i]
    unfold countInit
    rw [List.countP_append]
    congr 1
    rw [List.getD_eq_getElem?_getD]
    cases h : es[i]? with
    | none => simp
    | some x => cases x <;> simp

theorem byteOffset_eq (bm : Nat) (es : List Slot) (hb : ∀ k, bm.testBit k = (es.getD k none).isSome)
    (hp : ∀ p, some p ∈ es → p.length = 112) (i : Nat) (hi : i ≤ es.length) :
    byteOffset bm i = (encSlots (es.take i)).length := by
  have hp' : ∀ p, some p ∈ es.take i → p.length = 112 := fun p h => hp p (List.mem_of_mem_take h)
  rw [encSlots_length _ hp', byteOffset, popBelow_eq bm es hb i, List.length_take, DYN_TICK_LEN]
  have := countInit_le (es.take i)
  rw [List.length_take] at this
  omega

theorem testBit_set (bm i k : Nat) : (bm ||| 2 ^ i).testBit k = if k = i then true else bm.testBit k := by
  rw [Nat.testBit_or, Nat.testBit_two_pow]
  by_cases h : k = i
  · subst h; simp
  · have : ¬ i = k := fun e => h e.symm
    simp [h, this]

theorem testBit_clear (bm i k : Nat) (hi : i < 128) (hbm : bm < TWO128) :
    (bm &&& ((TWO128 - 1) ^^^ 2 ^ i)).testBit k = if k = i then false else bm.testBit k := by
  have h128 : TWO128 = 2 ^ 128 := rfl
  rw [Nat.testBit_and, Nat.testBit_xor, h128, Nat.testBit_two_pow_sub_one, Nat.testBit_two_pow]
  by_cases hk : k < 128
  · by_cases h : k = i
    · subst h; simp [hk]
    · have : ¬ i = k := fun e => h e.symm
      simp [h, this, hk]
  · have : bm.testBit k = false := by
      apply Nat.testBit_lt_two_pow
      have : 2 ^ 128 ≤ 2 ^ k := Nat.pow_le_pow_right (by decide) (by omega)
      omega
    have hki : ¬ k = i := by omega
    simp [this, hki]

/-! ### payload -/

theorem leBytes_length (n x : Nat) : (leBytes n x).length = n := by
  induction n generalizing x with
  | zero => rfl
  | succ n ih => simp [leBytes, ih]

theorem leVal_leBytes (n x : Nat) (h : x < 256 ^ n) : leVal (leBytes n x) = x := by
  induction n generalizing x with
  | zero => simp at h; subst h; rfl
  | succ n ih =>
    have : x / 256 < 256 ^ n := by
      rw [Nat.div_lt_iff_lt_mul (by decide)]; rw [Nat.pow_succ] at h; exact h
    simp only [leBytes, leVal, ih _ this]
    omega

theorem encTick_length (u : TickData) : (encTick u).length = 112 := by
  simp [encTick, leBytes_length]

/-- the values a `TickUpdate` with `initialized = true` can carry -/
structure TickOK (u : TickData) : Prop where
  init : u.initialized = true
  net : -(2 ^ 127 : Int) ≤ u.net ∧ u.net < 2 ^ 127
  gross : u.gross < TWO128
  fa : u.fgoA < TWO128
  fb : u.fgoB < TWO128
  rgo : ∃ r0 r1 r2, u.rgo = [r0, r1, r2] ∧ r0 < TWO128 ∧ r1 < TWO128 ∧ r2 < TWO128

theorem dec_enc_i128 (x : Int) (h : -(2 ^ 127 : Int) ≤ x ∧ x < 2 ^ 127) : decI128 (encI128 x) = x := by
  have h128 : TWO128 = 340282366920938463463374607431768211456 := rfl
  unfold decI128 encI128
  rw [h128]
  by_cases hx : x ≥ 0
  · simp only [hx, if_true]
    have : ¬ (x.toNat ≥ 340282366920938463463374607431768211456 / 2) := by omega
    simp only [this, if_false]; omega
  · simp only [hx, if_false]
    have : (x + (340282366920938463463374607431768211456 : Nat)).toNat ≥ 340282366920938463463374607431768211456 / 2 := by omega
    simp only [this, if_true]; omega

theorem encI128_lt (x : Int) (h : -(2 ^ 127 : Int) ≤ x ∧ x < 2 ^ 127) : encI128 x < 256 ^ 16 := by
  have h128 : TWO128 = 340282366920938463463374607431768211456 := rfl
  unfold encI128; rw [h128]
  split <;> omega

theorem dec_enc (u : TickData) (h : TickOK u) : decTick (encTick u) = u := by
  obtain ⟨r0, r1, r2, hr, h0, h1, h2⟩ := h.rgo
  have h128 : TWO128 = 256 ^ 16 := by decide
  have L := fun x => leBytes_length 16 x
  unfold decTick encTick
  simp only [List.append_assoc]
  have e32 : ∀ l : List Nat, l.drop 32 = (l.drop 16).drop 16 := by intro l; simp [List.drop_drop]
  have e48 : ∀ l : List Nat, l.drop 48 = ((l.drop 16).drop 16).drop 16 := by intro l; simp [List.drop_drop]
  have e64 : ∀ l : List Nat, l.drop 64 = (((l.drop 16).drop 16).drop 16).drop 16 := by intro l; simp [List.drop_drop]
  have e80 : ∀ l : List Nat, l.drop 80 = ((((l.drop 16).drop 16).drop 16).drop 16).drop 16 := by intro l; simp [List.drop_drop]
  have e96 : ∀ l : List Nat, l.drop 96 = (((((l.drop 16).drop 16).drop 16).drop 16).drop 16).drop 16 := by intro l; simp [List.drop_drop]
  rw [e32, e48, e64, e80, e96]
  simp only [List.drop_left' (L _), List.take_left' (L _)]
  have t7 : ∀ x, (leBytes 16 x).take 16 = leBytes 16 x := by intro x; exact List.take_of_length_le (by rw [L]; exact Nat.le_refl _)
  rw [t7]
  rw [leVal_leBytes _ _ (encI128_lt _ h.net), dec_enc_i128 _ h.net,
      leVal_leBytes _ _ (h128 ▸ h.gross), leVal_leBytes _ _ (h128 ▸ h.fa), leVal_leBytes _ _ (h128 ▸ h.fb)]
  rw [hr]
  simp only [List.getD_cons_zero, List.getD_cons_succ]
  rw [leVal_leBytes _ _ (h128 ▸ h0), leVal_leBytes _ _ (h128 ▸ h1), leVal_leBytes _ _ (h128 ▸ h2)]
  have hi := h.init
  cases u
  simp_all


/-! ### update_tick on the bytes -/

def slotOfUpdate (u : TickData) : Slot := if u.initialized then some (encTick u) else none

def bitmapAfter (bm i : Nat) (x : Slot) (u : TickData) : Nat :=
  if x.isNone && u.initialized then bm ||| 2 ^ i
  else if x.isSome && !u.initialized then bm &&& ((TWO128 - 1) ^^^ 2 ^ i)
  else bm

/-- `update_tick` after the slot lookup, when the tag byte read is that of slot `x`: the slot's bytes are rotated in
    (from the padding) or out (into it) if the update changes the flag, then the new encoding is written -/
theorem updateAt_slot (a : DynArr) (i : Nat) (u : TickData) (x : Slot)
    (htag : a.data.getD (byteOffset a.bitmap i) 0 = if x.isSome then 1 else 0) :
    a.updateAt i u = .ok ⟨a.start, bitmapAfter a.bitmap i x u,
      writeAt
        (match (generalizing := false) x, u.initialized with
         | none, true => a.data.take (byteOffset a.bitmap i) ++ rotR 112 (a.data.drop (byteOffset a.bitmap i))
         | some _, false => a.data.take (byteOffset a.bitmap i) ++ rotL 112 (a.data.drop (byteOffset a.bitmap i))
         | _, _ => a.data)
        (byteOffset a.bitmap i) (encSlot (slotOfUpdate u))⟩ := by
  unfold DynArr.updateAt bitmapAfter slotOfUpdate
  simp only [htag]
  cases x <;> cases u.initialized <;> rfl

theorem update_core (start : Int) (bm : Nat) (pre post : List Slot) (x : Slot) (pad : List Nat) (u : TickData)
    (hx : ∀ p, x = some p → p.length = 112)
    (hoff : byteOffset bm pre.length = (encSlots pre).length)
    (hpad : x = none → pad.length ≥ 112) :
    ∃ pad', DynArr.updateAt ⟨start, bm, encSlots pre ++ (encSlot x ++ (encSlots post ++ pad))⟩ pre.length u =
        .ok ⟨start, bitmapAfter bm pre.length x u,
             encSlots pre ++ (encSlot (slotOfUpdate u) ++ (encSlots post ++ pad'))⟩ ∧
      pad'.length + (encSlot (slotOfUpdate u)).length = pad.length + (encSlot x).length := by
  generalize encSlots pre = P at *
  generalize encSlots post = S
  have htag : (P ++ (encSlot x ++ (S ++ pad))).getD (byteOffset bm pre.length) 0 = if x.isSome then 1 else 0 := by
    rw [hoff]; cases x <;> exact getD_at _ _ _
  rw [updateAt_slot _ _ _ x htag]
  dsimp only
  rw [hoff, List.take_left, List.drop_left]
  -- after the rotation the bytes to overwrite sit at the offset, followed by the later slots and the new padding
  suffices h : ∃ old pad', (match (generalizing := false) x, u.initialized with
        | none, true => P ++ rotR 112 (encSlot x ++ (S ++ pad))
        | some _, false => P ++ rotL 112 (encSlot x ++ (S ++ pad))
        | _, _ => P ++ (encSlot x ++ (S ++ pad))) = P ++ (old ++ (S ++ pad')) ∧
      (encSlot (slotOfUpdate u)).length = old.length ∧ pad'.length + old.length = pad.length + (encSlot x).length by
    obtain ⟨old, pad', h1, h2, h3⟩ := h
    exact ⟨pad', by rw [h1, writeAt_over _ _ _ _ h2], h2 ▸ h3⟩
  have hE : (encTick u).length = 112 := encTick_length u
  unfold slotOfUpdate
  cases x with
  | none =>
    cases u.initialized with
    | false => exact ⟨[0], pad, rfl, rfl, rfl⟩
    | true =>
      -- initialize: the last 112 bytes of the padding rotate to the front of the slot
      obtain ⟨A, B, rfl, -, hB⟩ := exists_append_of_length pad (pad.length - 112) 112 (Nat.sub_add_cancel (hpad rfl)).symm
      refine ⟨B ++ [0], A, ?_, ?_, ?_⟩
      · show P ++ rotR 112 ([0] ++ (S ++ (A ++ B))) = _
        rw [← List.append_assoc S A B, ← List.append_assoc [0] (S ++ A) B, rotR_append _ _ _ hB, List.append_assoc]
      · show (1 :: encTick u).length = _
        rw [List.length_append, hB, List.length_cons, hE]; rfl
      · show A.length + (B ++ [0]).length = (A ++ B).length + 1
        rw [List.length_append, List.length_append, Nat.add_assoc]; rfl
  | some p =>
    have hp := hx p rfl
    cases u.initialized with
    | true =>
      exact ⟨1 :: p, pad, rfl, (congrArg Nat.succ hE).trans (congrArg Nat.succ hp.symm), rfl⟩
    | false =>
      -- de-initialize: the tag and the first 111 payload bytes rotate to the end of the padding
      obtain ⟨A, B, hAB, hA, hB⟩ := exists_append_of_length (1 :: p) 112 1 (congrArg Nat.succ hp)
      refine ⟨B, pad ++ A, ?_, hB.symm, ?_⟩
      · show P ++ rotL 112 ((1 :: p) ++ (S ++ pad)) = _
        rw [hAB, List.append_assoc, rotL_append _ _ _ hA, List.append_assoc, List.append_assoc]
      · show (pad ++ A).length + B.length = pad.length + (1 :: p).length
        rw [hAB, List.length_append, List.length_append, Nat.add_assoc]


/-! ### lifting to the whole array -/

theorem slotOf_lt (start t : Int) (ts i : Nat) (h : slotOf start t ts = .ok i) : i < 88 := by
  unfold slotOf at h
  have hT : ((TICK_ARRAY_SIZE : Nat) : Int) = 88 := rfl
  by_cases hb : inBounds start t ts = true
  · by_cases hts : ts = 0
    · subst hts
      unfold inBounds at hb
      simp at hb; omega
    · by_cases hc : (!inBounds start t ts || !isUsableTick t ts) = true
      · rw [if_pos hc] at h; cases h
      · rw [if_neg hc, if_neg hts] at h
        by_cases ho : (t - start) / (ts : Int) < 0
        · rw [if_pos ho] at h; cases h
        · rw [if_neg ho] at h
          cases h
          unfold inBounds at hb
          simp only [Bool.and_eq_true, decide_eq_true_eq] at hb
          have htspos : (0 : Int) < ts := by omega
          have : (t - start) / (ts : Int) < 88 := by
            apply Int.ediv_lt_of_lt_mul htspos
            rw [hT] at hb; omega
          omega
  · have hb' : inBounds start t ts = false := by simpa using hb
    rw [hb'] at h
    simp at h

theorem getD_eq (es : List Slot) (i : Nat) (hi : i < es.length) : es.getD i none = es[i] := by
  rw [List.getD_eq_getElem?_getD, List.getElem?_eq_getElem hi]; rfl

theorem getD_set (es : List Slot) (i k : Nat) (y : Slot) (hi : i < es.length) :
    (es.set i y).getD k none = if k = i then y else es.getD k none := by
  simp only [List.getD_eq_getElem?_getD, List.getElem?_set]
  by_cases h : k = i
  · subst h; simp [hi]
  · have : ¬ i = k := fun e => h e.symm
    simp [h, this]

theorem bitmap_lt (bm : Nat) (es : List Slot) (hl : es.length = 88) (hb : ∀ k, bm.testBit k = (es.getD k none).isSome) :
    bm < TWO128 := by
  have : bm < 2 ^ 88 := by
    apply Nat.lt_pow_two_of_testBit
    intro k hk
    rw [hb k, List.getD_eq_getElem?_getD, List.getElem?_eq_none (by omega)]
    rfl
  have h128 : TWO128 = 2 ^ 128 := rfl
  have : (2:Nat) ^ 88 < 2 ^ 128 := by decide
  omega

theorem eta (a : DynArr) (d : List Nat) (h : a.data = d) : a = ⟨a.start, a.bitmap, d⟩ := by
  cases a; simp_all

theorem slotOfUpdate_isSome (u : TickData) : (slotOfUpdate u).isSome = u.initialized := by
  unfold slotOfUpdate; cases u.initialized <;> rfl

theorem testBit_bitmapAfter (bm i k : Nat) (x : Slot) (u : TickData) (hi : i < 128) (hbm : bm < TWO128)
    (hx : bm.testBit i = x.isSome) :
    (bitmapAfter bm i x u).testBit k = if k = i then u.initialized else bm.testBit k := by
  have same : ∀ b : Bool, bm.testBit i = b → bm.testBit k = if k = i then b else bm.testBit k := by
    intro b hb
    split
    · next h => rw [h, hb]
    · rfl
  unfold bitmapAfter
  cases x with
  | none =>
    cases u.initialized with
    | false => exact same _ hx
    | true => exact testBit_set bm i k
  | some p =>
    cases u.initialized with
    | true => exact same _ hx
    | false => exact testBit_clear bm i k hi hbm

theorem bits_after (bm : Nat) (es : List Slot) (i : Nat) (hi : i < es.length) (hl : es.length = 88) (u : TickData)
    (hb : ∀ k, bm.testBit k = (es.getD k none).isSome) (k : Nat) :
    (bitmapAfter bm i (es.getD i none) u).testBit k = ((es.set i (slotOfUpdate u)).getD k none).isSome := by
  rw [getD_set es i k _ hi, testBit_bitmapAfter bm i k _ u (by omega) (bitmap_lt bm es hl hb) (hb i)]
  by_cases hk : k = i
  · rw [if_pos hk, if_pos hk, slotOfUpdate_isSome]
  · rw [if_neg hk, if_neg hk, hb k]

/-- a well-formed array opened at slot `i`: the bytes of the slots before it, its own, those after it, the padding -/
theorem WF.focus {a : DynArr} {es : List Slot} (wf : WF a es) (i : Nat) (hi : i < 88) :
    ∃ pad, a.data = encSlots es ++ pad ∧
      a.data = encSlots (es.take i) ++ (encSlot (es.getD i none) ++ (encSlots (es.drop (i + 1)) ++ pad)) ∧
      byteOffset a.bitmap i = (encSlots (es.take i)).length ∧ es.getD i none ∈ es := by
  obtain ⟨pad, hd⟩ := wf.data
  have hi' : i < es.length := by rw [wf.len]; exact hi
  have hx := getD_eq es i hi'
  refine ⟨pad, hd, ?_, byteOffset_eq a.bitmap es wf.bits wf.pay i (Nat.le_of_lt hi'), hx ▸ List.getElem_mem hi'⟩
  · calc a.data = encSlots (es.set i (es.getD i none)) ++ pad := by rw [hx, List.set_getElem_self hi', hd]
      _ = _ := by rw [encSlots_set es i hi', List.append_assoc, List.append_assoc]

theorem updateAt_wf (a : DynArr) (es : List Slot) (wf : WF a es) (i : Nat) (hi : i < 88) (u : TickData) :
    ∃ a', a.updateAt i u = .ok a' ∧ WF a' (es.set i (slotOfUpdate u)) ∧ a'.start = a.start ∧
      a'.data.length = a.data.length := by
  obtain ⟨pad, hd, hdata, hoff, hmem⟩ := wf.focus i hi
  have hlen := wf.len
  have hi' : i < es.length := by omega
  have hpre : (es.take i).length = i := List.length_take_of_le (Nat.le_of_lt hi')
  -- an uninitialized slot leaves at most 87 payloads, so the region has room for one more
  have hpad : es.getD i none = none → pad.length ≥ 112 := by
    intro hn
    have hc := countInit_lt es (hn ▸ hmem)
    have hr := wf.region
    rw [hd, List.length_append, encSlots_length es wf.pay] at hr
    omega
  obtain ⟨pad', hup, hpl⟩ := update_core a.start a.bitmap (es.take i) (es.drop (i + 1)) (es.getD i none) pad u
    (fun p hp => wf.pay p (hp ▸ hmem)) (by rw [hpre]; exact hoff) hpad
  rw [hpre, ← eta a _ hdata] at hup
  have hlenEq : (encSlots (es.take i) ++ (encSlot (slotOfUpdate u) ++ (encSlots (es.drop (i + 1)) ++ pad'))).length =
      a.data.length := by
    rw [hdata]
    simp only [List.length_append]
    omega
  refine ⟨_, hup, ⟨?_, ?_, ?_, ?_, ?_⟩, rfl, hlenEq⟩
  · rw [List.length_set]; exact hlen
  · intro p hp
    rcases List.mem_or_eq_of_mem_set hp with h | h
    · exact wf.pay p h
    · unfold slotOfUpdate at h
      split at h
      · cases h; exact encTick_length u
      · cases h
  · exact bits_after a.bitmap es i hi' hlen u wf.bits
  · exact ⟨pad', by rw [encSlots_set es i hi', List.append_assoc, List.append_assoc]⟩
  · exact hlenEq ▸ wf.region


theorem payload_at (P p R : List Nat) : ((P ++ 1 :: (p ++ R)).drop (P.length + 1)).take p.length = p := by
  rw [List.append_cons, show P.length + 1 = (P ++ [1]).length from (List.length_append (as := P) (bs := [1])).symm,
    List.drop_left, List.take_left]

theorem getAt_wf (a : DynArr) (es : List Slot) (wf : WF a es) (i : Nat) (hi : i < 88) :
    a.getAt i = .ok (absTick (es.getD i none)) := by
  obtain ⟨pad, _, hdata, hoff, hmem⟩ := wf.focus i hi
  unfold DynArr.getAt
  rw [hoff, hdata]
  dsimp only
  cases hx : es.getD i none with
  | none =>
    rw [show encSlot none ++ (encSlots (es.drop (i + 1)) ++ pad) = 0 :: (encSlots (es.drop (i + 1)) ++ pad) from rfl,
      getD_at, if_pos rfl]
    rfl
  | some p =>
    rw [show encSlot (some p) ++ (encSlots (es.drop (i + 1)) ++ pad) = 1 :: (p ++ (encSlots (es.drop (i + 1)) ++ pad)) from rfl,
      getD_at, if_neg Nat.one_ne_zero, if_pos rfl]
    have hp : p.length = 112 := wf.pay p (hx ▸ hmem)
    rw [show DYN_TICK_LEN = p.length from hp.symm, payload_at]
    rfl

theorem absArr_start (start : Int) (es : List Slot) : (absArr start es).start = start := rfl

theorem absArr_getD (start : Int) (es : List Slot) (k : Nat) :
    (absArr start es).ticks.getD k {} = absTick (es.getD k none) := by
  unfold absArr
  simp only [List.getD_eq_getElem?_getD, List.getElem?_map]
  cases es[k]? <;> rfl

theorem abs_set (start : Int) (es : List Slot) (i : Nat) (u : TickData) (hu : if u.initialized then TickOK u else u = {}) :
    (absArr start es).ticks.set i u = (absArr start (es.set i (slotOfUpdate u))).ticks := by
  unfold absArr slotOfUpdate
  simp only [List.map_set]
  congr 1
  by_cases h : u.initialized = true
  · simp only [h, if_true] at hu ⊢
    exact (dec_enc u hu).symm
  · have h' : u.initialized = false := by simpa using h
    simp only [h', Bool.false_eq_true, if_false] at hu ⊢
    rw [hu]; rfl

/-- **update_tick**: same error, or both succeed, the dynamic array stays well formed and its
    abstraction is the fixed array's result -/
theorem update_refines (a : DynArr) (es : List Slot) (wf : WF a es) (t : Int) (ts : Nat) (u : TickData)
    (hu : if u.initialized then TickOK u else u = {}) :
    (∃ e, a.updateTick t ts u = .error e ∧ (absArr a.start es).updateTick t ts u = .error e) ∨
    (∃ a' es', a.updateTick t ts u = .ok a' ∧ WF a' es' ∧ a'.data.length = a.data.length ∧
      (absArr a.start es).updateTick t ts u = .ok (absArr a'.start es')) := by
  unfold DynArr.updateTick FixArr.updateTick
  rw [absArr_start]
  cases h : slotOf a.start t ts with
  | error e => left; exact ⟨e, rfl, rfl⟩
  | ok i =>
    right
    have hi := slotOf_lt _ _ _ _ h
    obtain ⟨a', h1, h2, h3, h4⟩ := updateAt_wf a es wf i hi u
    refine ⟨a', es.set i (slotOfUpdate u), h1, h2, h4, ?_⟩
    simp only []
    rw [abs_set a.start es i u hu, h3]
    rfl

/-- **get_tick**: same answer or same error -/
theorem get_refines (a : DynArr) (es : List Slot) (wf : WF a es) (t : Int) (ts : Nat) :
    a.getTick t ts = (absArr a.start es).getTick t ts := by
  unfold DynArr.getTick FixArr.getTick
  rw [absArr_start]
  cases h : slotOf a.start t ts with
  | error e => rfl
  | ok i => exact (getAt_wf a es wf i (slotOf_lt _ _ _ _ h)).trans (congrArg _ (absArr_getD _ _ _).symm)

theorem absTick_init (x : Slot) : (absTick x).initialized = x.isSome := by
  cases x <;> rfl

/-- **get_next_init_tick_index**: the bitmap scan answers as the fixed array's scan of the
    `initialized` flags -/
theorem next_refines (a : DynArr) (es : List Slot) (wf : WF a es) (t : Int) (ts : Nat) (aToB : Bool) :
    a.nextInit t ts aToB = (absArr a.start es).nextInit t ts aToB := by
  unfold DynArr.nextInit FixArr.nextInit
  have hp : (fun k => a.bitmap.testBit k) = (fun k => (((absArr a.start es).ticks.getD k {}).initialized)) :=
    funext fun k => by rw [wf.bits k, absArr_getD, absTick_init]
  rw [hp]
  rfl

/-- **used length**: 8 + 52 + encoded slots = 148 + 112 × (number of initialized ticks), where the
    number of initialized ticks is the popcount of the bitmap -/
theorem used_len (a : DynArr) (es : List Slot) (wf : WF a es) :
    8 + 52 + (encSlots es).length = a.usedLen ∧ popBelow a.bitmap 88 = countInit es := by
  have h := popBelow_eq a.bitmap es wf.bits 88
  rw [← wf.len, List.take_length] at h
  constructor
  · unfold DynArr.usedLen
    rw [encSlots_length es wf.pay, wf.len]
    rw [← wf.len] ; rw [h]; rw [wf.len]; omega
  · rw [← wf.len]; exact h

theorem getD_replicate_none (n k : Nat) : (List.replicate n (none : Slot)).getD k none = none := by
  simp only [List.getD_eq_getElem?_getD, List.getElem?_replicate]
  split <;> rfl

theorem encSlots_replicate_none (n : Nat) : encSlots (List.replicate n (none : Slot)) = List.replicate n 0 := by
  induction n with
  | zero => rfl
  | succ n ih => rw [List.replicate_succ, encSlots_cons, ih]; rfl

theorem new_wf (start : Int) (region : Nat) (h : region ≥ 113 * 88) :
    WF (DynArr.new start region) (List.replicate 88 none) := by
  refine ⟨List.length_replicate, ?_, ?_, ?_, ?_⟩
  · intro p hp; rw [List.mem_replicate] at hp; cases hp.2
  · intro k
    rw [getD_replicate_none]
    simp [DynArr.new]
  · refine ⟨List.replicate (region - 88) 0, ?_⟩
    rw [encSlots_replicate_none, List.replicate_append_replicate]
    simp only [DynArr.new]
    congr 1; omega
  · simp only [DynArr.new, List.length_replicate]; omega

/-! ### whole histories -/

inductive Op where
  | update (t : Int) (ts : Nat) (u : TickData)
  | get (t : Int) (ts : Nat)
  | next (t : Int) (ts : Nat) (aToB : Bool)

inductive Out where
  | unit (r : R Unit)
  | tick (r : R TickData)
  | idx (r : R (Option Int))

def Op.ok : Op → Prop
  | .update _ _ u => if u.initialized then TickOK u else u = {}
  | _ => True

def stepDyn (a : DynArr) : Op → DynArr × Out
  | .update t ts u => match a.updateTick t ts u with
    | .ok a' => (a', .unit (.ok ()))
    | .error e => (a, .unit (.error e))
  | .get t ts => (a, .tick (a.getTick t ts))
  | .next t ts d => (a, .idx (a.nextInit t ts d))

def stepFix (a : FixArr) : Op → FixArr × Out
  | .update t ts u => match a.updateTick t ts u with
    | .ok a' => (a', .unit (.ok ()))
    | .error e => (a, .unit (.error e))
  | .get t ts => (a, .tick (a.getTick t ts))
  | .next t ts d => (a, .idx (a.nextInit t ts d))

def runDyn (a : DynArr) : List Op → DynArr × List Out
  | [] => (a, [])
  | op :: r => let s := stepDyn a op; let t := runDyn s.1 r; (t.1, s.2 :: t.2)

def runFix (a : FixArr) : List Op → FixArr × List Out
  | [] => (a, [])
  | op :: r => let s := stepFix a op; let t := runFix s.1 r; (t.1, s.2 :: t.2)

theorem step_refines (a : DynArr) (es : List Slot) (wf : WF a es) (op : Op) (hop : op.ok) :
    ∃ es', WF (stepDyn a op).1 es' ∧ (stepFix (absArr a.start es) op).1 = absArr (stepDyn a op).1.start es' ∧
      (stepDyn a op).2 = (stepFix (absArr a.start es) op).2 ∧ (stepDyn a op).1.data.length = a.data.length := by
  cases op with
  | update t ts u =>
    rcases update_refines a es wf t ts u hop with ⟨e, h1, h2⟩ | ⟨a', es', h1, h2, h3, h4⟩
    · exact ⟨es, by simp [stepDyn, h1, wf], by simp [stepDyn, stepFix, h1, h2], by simp [stepDyn, stepFix, h1, h2],
        by simp [stepDyn, h1]⟩
    · exact ⟨es', by simp [stepDyn, h1, h2], by simp [stepDyn, stepFix, h1, h4], by simp [stepDyn, stepFix, h1, h4],
        by simp [stepDyn, h1, h3]⟩
  | get t ts => exact ⟨es, wf, rfl, by simp [stepDyn, stepFix, get_refines a es wf], rfl⟩
  | next t ts d => exact ⟨es, wf, rfl, by simp [stepDyn, stepFix, next_refines a es wf], rfl⟩

/-- **C13, every history**: from any well-formed dynamic array and the fixed array holding the
    same ticks, any sequence of updates and queries produces the same outputs (tick contents,
    next-initialized answers, errors), and the dynamic array ends well formed -/
theorem run_refines (ops : List Op) (a : DynArr) (es : List Slot) (wf : WF a es) (hops : ∀ op ∈ ops, op.ok) :
    (runDyn a ops).2 = (runFix (absArr a.start es) ops).2 ∧ ∃ es', WF (runDyn a ops).1 es' ∧
      (runFix (absArr a.start es) ops).1 = absArr (runDyn a ops).1.start es' := by
  induction ops generalizing a es with
  | nil => exact ⟨rfl, es, wf, rfl⟩
  | cons op r ih =>
    obtain ⟨es1, w1, f1, o1, _⟩ := step_refines a es wf op (hops op List.mem_cons_self)
    have := ih (stepDyn a op).1 es1 w1 (fun o ho => hops o (List.mem_cons_of_mem _ ho))
    simp only [runDyn, runFix]
    rw [f1, o1]
    exact ⟨by rw [this.1], this.2⟩

/-- from a NEW array of either accessor's region length -/
theorem run_from_new (ops : List Op) (start : Int) (region : Nat) (h : region ≥ 113 * 88) (hops : ∀ op ∈ ops, op.ok) :
    (runDyn (DynArr.new start region) ops).2 = (runFix (FixArr.new start) ops).2 ∧
    ∃ es', WF (runDyn (DynArr.new start region) ops).1 es' := by
  have hn : absArr (DynArr.new start region).start (List.replicate 88 none) = FixArr.new start := by
    simp [absArr, FixArr.new, DynArr.new, absTick]
  have := run_refines ops _ _ (new_wf start region h) hops
  rw [hn] at this
  exact ⟨this.1, this.2.imp fun _ h => h.1⟩

/-! ### account size -/

/-- `calculate_modify_tick_array`'s size decision: +1 tick when an uninitialized tick is
    initialized, −1 when an initialized tick is de-initialized (the account is then resized by
    112 bytes) -/
def sizeUpdate (wasInit updInit : Bool) : Int :=
  if !wasInit && updInit then 1 else if wasInit && !updInit then -1 else 0

/-- the size decision is the change in the number of initialized ticks -/
theorem sizeUpdate_count (n : Nat) (w u : Bool) (hw : w = true → 0 < n) :
    ((n - (if w = true then 1 else 0) + (if u = true then 1 else 0) : Nat) : Int) = n + sizeUpdate w u := by
  cases w
  · cases u <;> simp [sizeUpdate]
  · have := hw rfl
    cases u <;> simp [sizeUpdate] <;> omega

/-- the used length moves by exactly 112 × the size decision taken from (tick read before the
    update).initialized and update.initialized — so an account resized by that decision always has
    length 148 + 112 × (initialized ticks) -/
theorem used_len_step (a : DynArr) (es : List Slot) (wf : WF a es) (i : Nat) (hi : i < 88) (u : TickData)
    (a' : DynArr) (h : a.updateAt i u = .ok a') :
    (a'.usedLen : Int) = a.usedLen + 112 * sizeUpdate (absTick (es.getD i none)).initialized u.initialized := by
  obtain ⟨a2, h1, wf2, _, _⟩ := updateAt_wf a es wf i hi u
  cases h1.symm.trans h
  have hi' : i < es.length := wf.len ▸ hi
  have hc : countInit (es.set i (slotOfUpdate u)) =
      countInit es - (if es[i].isSome = true then 1 else 0) + (if u.initialized = true then 1 else 0) :=
    slotOfUpdate_isSome u ▸ List.countP_set hi'
  have hn := sizeUpdate_count (countInit es) es[i].isSome u.initialized
    fun h => List.countP_pos_iff.mpr ⟨_, List.getElem_mem hi', h⟩
  unfold DynArr.usedLen
  rw [(used_len a es wf).2, (used_len a' _ wf2).2, absTick_init, getD_eq es i hi', hc]
  omega

/-! ### the Pinocchio accessor -/

theorem tag_wf (a : DynArr) (es : List Slot) (wf : WF a es) (i : Nat) (hi : i < 88) :
    a.data.getD (byteOffset a.bitmap i) 0 = if (es.getD i none).isSome then 1 else 0 := by
  obtain ⟨pad, _, hdata, hoff, _⟩ := wf.focus i hi
  rw [hoff, hdata]
  cases es.getD i none <;> exact getD_at _ _ _

/-- on a well-formed array the Pinocchio accessor (tag ≠ 0 ⇒ initialized, no decode error) and the
    Anchor accessor (Borsh decode) coincide -/
theorem pino_eq (a : DynArr) (es : List Slot) (wf : WF a es) (i : Nat) (hi : i < 88) (u : TickData) :
    a.updateAtP i u = a.updateAt i u ∧ a.getAtP i = a.getAt i := by
  have ht := tag_wf a es wf i hi
  unfold DynArr.updateAtP DynArr.updateAt DynArr.getAtP DynArr.getAt
  simp only [ht]
  cases (es.getD i none).isSome <;> simp

/-! ### the updates the program produces are canonical -/

def Canon (u : TickData) : Prop := if u.initialized then TickOK u else u = {}

theorem Canon.ranges {t : TickData} (ht : Canon t) :
    t.gross < TWO128 ∧ t.fgoA < TWO128 ∧ t.fgoB < TWO128 ∧
    ∃ r0 r1 r2, t.rgo = [r0, r1, r2] ∧ r0 < TWO128 ∧ r1 < TWO128 ∧ r2 < TWO128 := by
  unfold Canon at ht
  split at ht
  · exact ⟨ht.gross, ht.fa, ht.fb, ht.rgo⟩
  · rw [ht]; exact ⟨by decide, by decide, by decide, 0, 0, 0, rfl, by decide, by decide, by decide⟩

/-- `next_tick_modify_liquidity_update` applied to a canonical tick yields a canonical update
    (in particular an uninitialized update carries no data, which is what makes the fixed array —
    which stores the update verbatim — and the dynamic array — which stores one byte — agree) -/
theorem modify_update_canon (t : TickData) (ti ci : Int) (fgA fgB : Nat) (rw : List RewardInfo) (delta : Int)
    (up : Bool) (u : TickData) (ht : Canon t) (ha : fgA < TWO128) (hb : fgB < TWO128)
    (hr : ∃ a b c : RewardInfo, rw = [a, b, c] ∧ a.growth < TWO128 ∧ b.growth < TWO128 ∧ c.growth < TWO128)
    (h : nextTickModifyLiquidityUpdate t ti ci fgA fgB rw delta up = .ok u) : Canon u := by
  rcases tickModify_cases h with ⟨_, rfl⟩ | ⟨_, gross, hg, ⟨_, rfl⟩ | ⟨_, net, hn, rfl⟩⟩
  · exact ht
  · exact rfl
  · obtain ⟨hgr, hfa, hfb, hrg⟩ := Canon.ranges ht
    obtain ⟨a, b, c, rfl, h0, h1, h2⟩ := hr
    have hz : 0 < TWO128 := by decide
    obtain ⟨rfl, hnet⟩ := checkedI128_ok hn
    have hgross : gross < TWO128 := Nat.lt_succ_of_le ((addLiquidityDelta_ok hg).2 (Nat.le_of_lt_succ hgr))
    -- the outside growths are the tick's own, or set on first use to the current global ones or to zero
    by_cases hg0 : t.gross = 0
    · by_cases hc : ci ≥ ti
      · simp only [if_pos hg0, if_pos hc]; exact ⟨rfl, hnet, hgross, ha, hb, _, _, _, rfl, h0, h1, h2⟩
      · simp only [if_pos hg0, if_neg hc]; exact ⟨rfl, hnet, hgross, hz, hz, 0, 0, 0, rfl, hz, hz, hz⟩
    · simp only [if_neg hg0]; exact ⟨rfl, hnet, hgross, hfa, hfb, hrg⟩

theorem cross_update_canon (t : TickData) (fgA fgB : Nat) (rw : List RewardInfo) (ht : TickOK t) :
    TickOK (nextTickCrossUpdate t fgA fgB rw) := by
  have hw : ∀ a b, wsub a b < TWO128 := by
    intro a b; unfold wsub; exact Nat.mod_lt _ (by decide)
  obtain ⟨r0, r1, r2, hr, h0, h1, h2⟩ := ht.rgo
  unfold nextTickCrossUpdate
  refine ⟨ht.init, ht.net, ht.gross, hw _ _, hw _ _, ?_⟩
  refine ⟨_, _, _, rfl, ?_, ?_, ?_⟩ <;> simp only [hr] <;> split <;> first | exact hw _ _ | simp [h0, h1, h2]

-- Non-vacuity: an initialized tick update satisfying TickOK
example : TickOK { initialized := true, net := -5, gross := 7, fgoA := 1, fgoB := 2, rgo := [3, 4, 5] } :=
  ⟨rfl, by decide, by decide, by decide, by decide, ⟨3, 4, 5, rfl, by decide, by decide, by decide⟩⟩

end WP.C13
