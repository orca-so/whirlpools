import WP.Lemmas.Loop
/-
  Property C14 — adaptive fees follow the volatility schedule and stay within the hard limit.

  Model: WP/Model/FeeRate.lean (state/oracle.rs + manager/fee_rate_manager.rs) and the swap loop.
  Proved here, for all constants accepted by `validate_constants`, all stored variables satisfying
  the invariant `AfInv` (established by both constants setters, which reset the variables, and
  preserved by every swap — `af_inv_swap`), all swaps:
   * the volatility accumulator never exceeds its maximum (updateVolAcc_le), and neither does the
     stored reference (updateReference_inv) — which is what makes the unchecked u32 subtraction in
     `FeeRateManager::new` safe (new_no_wrap);
   * static rate ≤ total rate ≤ 100000 = 10% (total_rate_bounds);
   * the rate is the documented function of the accumulator: ⌈f·(acc·size)²/10¹³⌉ capped, without
     u32 wrap-around (adaptive_rate_formula), monotone in the accumulator (adaptive_rate_mono), and
     the accumulator is min(reference + 10000·|reference group − group|, max) (volAcc_formula);
   * the reference update follows the filter / decay / reset-after-3600 s rules (updateReference_spec);
   * the major-swap timestamp is set exactly when the price ratio reaches the threshold (major_swap_iff);
   * control factor 0: the adaptive rate is 0, the total rate is the static rate and no price
     target is ever bounded (zero_control), so each step computes exactly what a static pool computes;
   * trading before the trade-enable time is refused (trade_enabled_spec) — the handler guard itself
     is regenerated from the source (C15/C04 tables: `is_trade_enabled` reject rows).
-/
namespace WP.C14
open WP WP.Gen

/-! ### what a successful `FeeMgr.new` and `advanceAfterSkip` are made of (for `swap`, `swapFinish`, `swapStep`: Lemmas/Loop.lean) -/

theorem new_adaptive (aToB : Bool) (cur : Int) (now rate : Nat) (info : AfInfo) (f : FeeMgr)
    (h : FeeMgr.new aToB cur now rate (some info) = .ok f) :
    ∃ m, f = .adaptive m ∧ m.staticRate = rate ∧ m.c = info.constants ∧
      info.variables.updateReference (cur / (info.constants.groupSize : Int)) now info.constants = .ok m.v := by
  unfold FeeMgr.new at h
  simp only [] at h
  split at h
  · cases h
  · rename_i v hv
    cases h
    exact ⟨_, rfl, rfl, rfl, hv⟩

/-- the accumulator written by `update_volatility_accumulator` does not depend on the one it replaces -/
theorem updateVolAcc_twice (v : AfVariables) (g g' : Int) (c : AfConstants) :
    (v.updateVolAcc g c).updateVolAcc g' c = v.updateVolAcc g' c := by
  unfold AfVariables.updateVolAcc; rfl

theorem ite_of {α : Sort _} (P : α → Prop) (b : Prop) [Decidable b] (x y : α) (hx : P x) (hy : P y) :
    P (if b then x else y) := by
  split
  · exact hx
  · exact hy

theorem afterSkip_spec (m : AdaptiveMgr) (p np : Nat) (nt : Int) :
    ∃ m', (FeeMgr.adaptive m).advanceAfterSkip p np nt = .ok (.adaptive m') ∧ m'.c = m.c ∧ m'.staticRate = m.staticRate ∧
      (m'.v = m.v ∨ ∃ g, m'.v = m.v.updateVolAcc g m.c) := by
  -- the result is `m` or `m` moved to another tick group, one group further on
  refine ⟨_, rfl, ?_⟩
  exact ite_of (fun m' : AdaptiveMgr => m'.c = m.c ∧ m'.staticRate = m.staticRate ∧
      (m'.v = m.v ∨ ∃ g, m'.v = m.v.updateVolAcc g m.c)) _ _ m ⟨rfl, rfl, Or.inr ⟨_, rfl⟩⟩ ⟨rfl, rfl, Or.inl rfl⟩

def AfInv (c : AfConstants) (v : AfVariables) : Prop := v.volRef ≤ c.maxVolAcc ∧ v.volAcc ≤ c.maxVolAcc

theorem updateVolAcc_le (v : AfVariables) (g : Int) (c : AfConstants) : (v.updateVolAcc g c).volAcc ≤ c.maxVolAcc := by
  unfold AfVariables.updateVolAcc; exact Nat.min_le_right _ _

theorem volAcc_formula (v : AfVariables) (g : Int) (c : AfConstants) :
    (v.updateVolAcc g c).volAcc = min (v.volRef + (v.groupIndexRef - g).natAbs * 10000) c.maxVolAcc := rfl


theorem updateVolAcc_other (v : AfVariables) (g : Int) (c : AfConstants) :
    (v.updateVolAcc g c).volRef = v.volRef ∧ (v.updateVolAcc g c).groupIndexRef = v.groupIndexRef ∧
    (v.updateVolAcc g c).lastRefUpdateTs = v.lastRefUpdateTs ∧ (v.updateVolAcc g c).lastMajorSwapTs = v.lastMajorSwapTs := by
  unfold AfVariables.updateVolAcc; exact ⟨rfl, rfl, rfl, rfl⟩

-- through `updateVolAcc_other`: left to unfold `updateVolAcc` itself, the kernel meets `_ * 10000` with an opaque
-- factor and counts it down
theorem updateVolAcc_inv (v : AfVariables) (g : Int) (c : AfConstants) (h : AfInv c v) : AfInv c (v.updateVolAcc g c) :=
  ⟨Nat.le_trans (Nat.le_of_eq (updateVolAcc_other v g c).1) h.1, updateVolAcc_le v g c⟩

theorem updateReference_spec (v v' : AfVariables) (g : Int) (now : Nat) (c : AfConstants)
    (h : v.updateReference g now c = .ok v') :
    let maxTs := max v.lastRefUpdateTs v.lastMajorSwapTs
    now ≥ maxTs ∧ v'.volAcc = v.volAcc ∧ v'.lastMajorSwapTs = v.lastMajorSwapTs ∧
    ((now - v.lastRefUpdateTs > 3600 ∧ v'.groupIndexRef = g ∧ v'.volRef = 0 ∧ v'.lastRefUpdateTs = now) ∨
     (now - v.lastRefUpdateTs ≤ 3600 ∧ now - maxTs < c.filterPeriod ∧ v' = v) ∨
     (now - v.lastRefUpdateTs ≤ 3600 ∧ c.filterPeriod ≤ now - maxTs ∧ now - maxTs < c.decayPeriod ∧
        v'.groupIndexRef = g ∧ v'.volRef = (v.volAcc * c.reductionFactor / 10000) % TWO32 ∧ v'.lastRefUpdateTs = now) ∨
     (now - v.lastRefUpdateTs ≤ 3600 ∧ c.decayPeriod ≤ now - maxTs ∧ c.filterPeriod ≤ now - maxTs ∧
        v'.groupIndexRef = g ∧ v'.volRef = 0 ∧ v'.lastRefUpdateTs = now)) := by
  unfold AfVariables.updateReference at h
  simp only []
  by_cases h0 : now < max v.lastRefUpdateTs v.lastMajorSwapTs
  · rw [if_pos h0] at h; cases h
  · rw [if_neg h0] at h
    refine ⟨Nat.le_of_not_lt h0, ?_⟩
    by_cases h1 : now - v.lastRefUpdateTs > MAX_REFERENCE_AGE
    · rw [if_pos h1] at h; cases h
      exact ⟨rfl, rfl, Or.inl ⟨h1, rfl, rfl, rfl⟩⟩
    · rw [if_neg h1] at h
      have h1 := Nat.le_of_not_lt h1
      by_cases h2 : now - max v.lastRefUpdateTs v.lastMajorSwapTs < c.filterPeriod
      · rw [if_pos h2] at h; cases h
        exact ⟨rfl, rfl, Or.inr (Or.inl ⟨h1, h2, rfl⟩)⟩
      · rw [if_neg h2] at h
        have h2 := Nat.le_of_not_lt h2
        by_cases h3 : now - max v.lastRefUpdateTs v.lastMajorSwapTs < c.decayPeriod
        · rw [if_pos h3] at h; cases h
          exact ⟨rfl, rfl, Or.inr (Or.inr (Or.inl ⟨h1, h2, h3, rfl, rfl, rfl⟩))⟩
        · rw [if_neg h3] at h; cases h
          exact ⟨rfl, rfl, Or.inr (Or.inr (Or.inr ⟨h1, Nat.le_of_not_lt h3, h2, rfl, rfl, rfl⟩))⟩

theorem updateReference_inv (v v' : AfVariables) (g : Int) (now : Nat) (c : AfConstants)
    (hred : c.reductionFactor < 10000) (hinv : AfInv c v) (h : v.updateReference g now c = .ok v') : AfInv c v' := by
  obtain ⟨_, hacc, _, hcase⟩ := updateReference_spec v v' g now c h
  refine ⟨?_, by rw [hacc]; exact hinv.2⟩
  rcases hcase with ⟨_, _, h0, _⟩ | ⟨_, _, he⟩ | ⟨_, _, _, _, hr, _⟩ | ⟨_, _, _, _, h0, _⟩
  · rw [h0]; exact Nat.zero_le _
  · rw [he]; exact hinv.1
  · rw [hr]
    calc v.volAcc * c.reductionFactor / 10000 % TWO32
        ≤ v.volAcc * c.reductionFactor / 10000 := Nat.mod_le _ _
      _ ≤ v.volAcc * 10000 / 10000 := Nat.div_le_div_right (Nat.mul_le_mul_left _ (Nat.le_of_lt hred))
      _ = v.volAcc := Nat.mul_div_cancel _ (by decide)
      _ ≤ c.maxVolAcc := hinv.2
  · rw [h0]; exact Nat.zero_le _

/-- both constants setters (`initialize`, set_adaptive_fee_constants) reset the variables -/
theorem reset_inv (c : AfConstants) : AfInv c {} := ⟨Nat.zero_le _, Nat.zero_le _⟩

/-- under the invariant the unchecked `max_volatility_accumulator - volatility_reference` of
    `FeeRateManager::new` does not wrap -/
theorem new_no_wrap (c : AfConstants) (v : AfVariables) (h : AfInv c v) (hm : c.maxVolAcc < TWO32) :
    (c.maxVolAcc + TWO32 - v.volRef) % TWO32 = c.maxVolAcc - v.volRef := by
  have := h.1
  have e : c.maxVolAcc + TWO32 - v.volRef = (c.maxVolAcc - v.volRef) + TWO32 := by omega
  rw [e, Nat.add_mod_right, Nat.mod_eq_of_lt (by omega)]

/-! ### the rate -/

theorem ceilDiv_le (a b n : Nat) (hb : 0 < b) (h : a ≤ n * b) : ceilDiv a b ≤ n := by
  unfold ceilDiv
  have h1 : a / b ≤ n := Nat.div_le_of_le_mul (by rw [Nat.mul_comm]; exact h)
  split
  · exact h1
  · rename_i hne
    by_cases he : a / b = n
    · exfalso; apply hne
      have := Nat.div_mul_le_self a b
      have h2 : n * b ≤ a := by rw [← he]; exact this
      rw [he]; omega
    · omega

theorem le_ceilDiv_mul (a b : Nat) (hb : 0 < b) : a ≤ ceilDiv a b * b := by
  unfold ceilDiv
  split
  · rename_i he; omega
  · have := Nat.lt_div_mul_add hb (a := a)
    rw [Nat.add_mul, Nat.one_mul]; omega

theorem ceilDiv_mono (a a' b : Nat) (hb : 0 < b) (h : a ≤ a') : ceilDiv a b ≤ ceilDiv a' b := by
  apply ceilDiv_le a b _ hb
  have := le_ceilDiv_mul a' b hb
  omega

theorem adaptive_rate_le (c : AfConstants) (v : AfVariables) : computeAdaptiveFeeRate c v ≤ FEE_RATE_HARD_LIMIT := by
  unfold computeAdaptiveFeeRate
  simp only []
  split
  · exact Nat.le_refl _
  · omega

theorem total_rate_bounds (m : AdaptiveMgr) (hs : m.staticRate ≤ FEE_RATE_HARD_LIMIT) :
    m.staticRate ≤ (FeeMgr.adaptive m).totalFeeRate ∧ (FeeMgr.adaptive m).totalFeeRate ≤ FEE_RATE_HARD_LIMIT := by
  unfold FeeMgr.totalFeeRate
  simp only []
  split
  · exact ⟨hs, Nat.le_refl _⟩
  · exact ⟨Nat.le_add_right _ _, by omega⟩

/-- with validated constants and a capped accumulator the u32 product does not wrap: the rate is
    ⌈factor · (accumulator · group size)² / (100000 · 10000 · 10000)⌉, capped at 100000 -/
theorem adaptive_rate_formula (c : AfConstants) (v : AfVariables) (hc : c.maxVolAcc * c.groupSize ≤ 4294967295)
    (hv : v.volAcc ≤ c.maxVolAcc) :
    computeAdaptiveFeeRate c v =
      min (ceilDiv (c.controlFactor * ((v.volAcc * c.groupSize) * (v.volAcc * c.groupSize))) 10000000000000) 100000 := by
  unfold computeAdaptiveFeeRate
  have hlt : v.volAcc * c.groupSize < TWO32 := by
    have : v.volAcc * c.groupSize ≤ c.maxVolAcc * c.groupSize := Nat.mul_le_mul_right _ hv
    have e : TWO32 = 4294967296 := rfl
    omega
  simp only [Nat.mod_eq_of_lt hlt]
  have e1 : ADAPTIVE_FEE_CONTROL_FACTOR_DENOMINATOR * VOLATILITY_ACCUMULATOR_SCALE_FACTOR * VOLATILITY_ACCUMULATOR_SCALE_FACTOR = 10000000000000 := rfl
  have e2 : FEE_RATE_HARD_LIMIT = 100000 := rfl
  rw [e1, e2]
  split
  · rename_i h; rw [Nat.min_eq_right (by omega)]
  · rename_i h; rw [Nat.min_eq_left (by omega)]

/-- more volatility never lowers the fee -/
theorem adaptive_rate_mono (c : AfConstants) (v v' : AfVariables) (hc : c.maxVolAcc * c.groupSize ≤ 4294967295)
    (hv : v.volAcc ≤ v'.volAcc) (hv' : v'.volAcc ≤ c.maxVolAcc) :
    computeAdaptiveFeeRate c v ≤ computeAdaptiveFeeRate c v' := by
  rw [adaptive_rate_formula c v hc (by omega), adaptive_rate_formula c v' hc hv']
  have h1 : v.volAcc * c.groupSize ≤ v'.volAcc * c.groupSize := Nat.mul_le_mul_right _ hv
  have h2 := Nat.mul_le_mul h1 h1
  have h3 := Nat.mul_le_mul_left c.controlFactor h2
  have := ceilDiv_mono _ _ 10000000000000 (by omega) h3
  exact Nat.le_min.mpr ⟨Nat.le_trans (Nat.min_le_left _ _) this, Nat.min_le_right _ _⟩

/-- control factor 0: charges exactly like a static pool and never bounds a price target -/
theorem zero_control (m : AdaptiveMgr) (h0 : m.c.controlFactor = 0) (hs : m.staticRate ≤ FEE_RATE_HARD_LIMIT) (target liq : Nat) :
    computeAdaptiveFeeRate m.c m.v = 0 ∧ (FeeMgr.adaptive m).totalFeeRate = m.staticRate ∧
    ((FeeMgr.adaptive m).boundedTarget target liq).1 = target := by
  have hr : computeAdaptiveFeeRate m.c m.v = 0 := by
    unfold computeAdaptiveFeeRate ceilDiv
    simp only [h0, Nat.zero_mul, Nat.zero_div, if_true]
    have : ¬ (0 > FEE_RATE_HARD_LIMIT) := by omega
    simp only [this, if_false]
  refine ⟨hr, ?_, ?_⟩
  · unfold FeeMgr.totalFeeRate
    simp only [hr, Nat.add_zero]
    split
    · omega
    · rfl
  · unfold FeeMgr.boundedTarget
    simp [h0]

/-! ### major swap -/

theorem major_swap_iff (v v' : AfVariables) (pre post now : Nat) (c : AfConstants)
    (h : v.updateMajorSwapTs pre post now c = .ok v') :
    ∃ b, isMajorSwap pre post c.majorSwapThresholdTicks = .ok b ∧
      (b = true → v' = { v with lastMajorSwapTs := now }) ∧ (b = false → v' = v) := by
  unfold AfVariables.updateMajorSwapTs at h
  cases hb : isMajorSwap pre post c.majorSwapThresholdTicks with
  | error e => rw [hb] at h; cases h
  | ok b =>
    rw [hb] at h
    cases b with
    | true => simp only [] at h; cases h; exact ⟨true, rfl, fun _ => rfl, fun h => Bool.noConfusion h⟩
    | false => simp only [] at h; cases h; exact ⟨false, rfl, fun h => Bool.noConfusion h, fun _ => rfl⟩

/-- `is_major_swap`: the larger price is at least the smaller one times 1.0001^(threshold/2) in Q64.64 -/
theorem is_major_spec (pre post t : Nat) (b : Bool) (h : isMajorSwap pre post t = .ok b) :
    b = decide (max pre post ≥ (min pre post * sp t % TWO256) / TWO64) := by
  unfold isMajorSwap at h
  simp only [] at h
  split at h
  · cases h
  · cases h; rfl

/-! ### trade-enable time -/

/-- `OracleAccessor::is_trade_enabled` -/
def isTradeEnabled (oracleInitialized : Bool) (tradeEnableTs now : Nat) : Bool :=
  if !oracleInitialized then true else decide (tradeEnableTs ≤ now)

theorem trade_enabled_spec (tradeEnableTs now : Nat) :
    isTradeEnabled true tradeEnableTs now = false ↔ now < tradeEnableTs := by
  unfold isTradeEnabled; simp

/-! ### every step of every swap is charged the rate of a tick group -/

/-- the rate of tick group `g` when the volatility reference is `volRef` at reference group `gRef`: static rate plus
    the adaptive rate of the group's accumulator  min(volRef + 10000·|gRef − g|, maximum),  capped at the hard limit -/
def groupRate (staticRate : Nat) (c : AfConstants) (volRef : Nat) (gRef g : Int) : Nat :=
  let acc := min (volRef + (gRef - g).natAbs * VOLATILITY_ACCUMULATOR_SCALE_FACTOR) c.maxVolAcc
  let t := staticRate + computeAdaptiveFeeRate c { volAcc := acc }
  if t > FEE_RATE_HARD_LIMIT then FEE_RATE_HARD_LIMIT else t

theorem groupRate_bounds (r : Nat) (c : AfConstants) (vr : Nat) (gr g : Int) (hr : r ≤ FEE_RATE_HARD_LIMIT) :
    r ≤ groupRate r c vr gr g ∧ groupRate r c vr gr g ≤ FEE_RATE_HARD_LIMIT := by
  unfold groupRate
  simp only []
  split <;> omega

/-- **C14, per step**: on an adaptive-fee pool a step is computed (`compute_swap`) with the rate of the manager's
    current tick group and recorded with exactly that rate -/
theorem step_charge (c : SwapCtx) (s s' : SwapSt) (nai : Nat) (nti : Int) (ntp tgt : Nat) (m : AdaptiveMgr)
    (hm : s.fm = .adaptive m) (h : swapStep c s nai nti ntp tgt = .ok s') :
    ∃ sc, computeSwap s.remaining (groupRate m.staticRate m.c m.v.volRef m.v.groupIndexRef m.groupIndex) s.liq s.price
            (s.fm.updateVolAcc.boundedTarget tgt s.liq).1 c.isInput c.aToB = .ok sc ∧
      s'.steps = (s.liq, groupRate m.staticRate m.c m.v.volRef m.v.groupIndexRef m.groupIndex,
                  sc.amountIn, sc.amountOut, sc.feeAmount, sc.nextPrice) :: s.steps ∧
      s'.price = sc.nextPrice := by
  -- `compute_adaptive_fee_rate` reads only the accumulator, which `update_volatility_accumulator` has just set
  have hrate : s.fm.updateVolAcc.totalFeeRate = groupRate m.staticRate m.c m.v.volRef m.v.groupIndexRef m.groupIndex := by
    rw [hm]; rfl
  obtain ⟨sc, _, _, _, _, hsc, _, _, _, _, rfl⟩ := swapStep_ok.mp h
  rw [hrate] at hsc
  exact ⟨sc, hsc, by rw [hrate], rfl⟩

theorem swapStep_adaptive (c : SwapCtx) (s s' : SwapSt) (nai : Nat) (nti : Int) (ntp tgt : Nat) (m : AdaptiveMgr)
    (hm : s.fm = .adaptive m) (h : swapStep c s nai nti ntp tgt = .ok s') :
    ∃ m' g, s'.fm = .adaptive m' ∧ m'.staticRate = m.staticRate ∧ m'.c = m.c ∧ m'.v = m.v.updateVolAcc g m.c := by
  obtain ⟨sc, _, _, _, fm', _, _, _, _, hfm, rfl⟩ := swapStep_ok.mp h
  rw [hm] at hfm
  split at hfm
  · cases hfm
    exact ⟨_, m.groupIndex, rfl, rfl, rfl, rfl⟩
  · obtain ⟨m', e, hc, hr, hv⟩ := afterSkip_spec { m with v := m.v.updateVolAcc m.groupIndex m.c } sc.nextPrice ntp nti
    cases e.symm.trans hfm
    rcases hv with hv | ⟨g, hv⟩
    · exact ⟨m', m.groupIndex, rfl, hr, hc, hv⟩
    · exact ⟨m', g, rfl, hr, hc, hv.trans (updateVolAcc_twice m.v m.groupIndex g m.c)⟩

/-- what a swap keeps true of the manager `m0` it starts with and of its trace: the manager stays adaptive with the same
    static rate, constants, volatility reference and reference group; if `AfInv` held of `m0` it holds still; every
    recorded step was charged the rate of some tick group -/
def Charged (m0 : AdaptiveMgr) (s : SwapSt) : Prop :=
  (∃ m, s.fm = .adaptive m ∧ m.staticRate = m0.staticRate ∧ m.c = m0.c ∧ m.v.volRef = m0.v.volRef ∧
    m.v.groupIndexRef = m0.v.groupIndexRef ∧ (AfInv m0.c m0.v → AfInv m0.c m.v)) ∧
  ∀ e ∈ s.steps, ∃ g : Int, e.2.1 = groupRate m0.staticRate m0.c m0.v.volRef m0.v.groupIndexRef g

theorem charged_step (c : SwapCtx) (m0 : AdaptiveMgr) (s s' : SwapSt) (nai : Nat) (nti : Int) (ntp tgt : Nat)
    (hs : Charged m0 s) (h : swapStep c s nai nti ntp tgt = .ok s') : Charged m0 s' := by
  obtain ⟨⟨m, hm, er, ec, evr, egr, hinv⟩, hst⟩ := hs
  obtain ⟨m', g, hm', hr, hc, hv⟩ := swapStep_adaptive c s s' nai nti ntp tgt m hm h
  obtain ⟨sc, _, hsteps, _⟩ := step_charge c s s' nai nti ntp tgt m hm h
  refine ⟨⟨m', hm', hr.trans er, hc.trans ec, ?_, ?_, fun h0 => ?_⟩, fun e he => ?_⟩
  · rw [hv, (updateVolAcc_other m.v g m.c).1]; exact evr
  · rw [hv, (updateVolAcc_other m.v g m.c).2.1]; exact egr
  · rw [hv, ec]; exact updateVolAcc_inv m.v g m0.c (hinv h0)
  · rw [hsteps] at he
    rcases List.mem_cons.mp he with rfl | he
    · exact ⟨m.groupIndex, by rw [← er, ← ec, ← evr, ← egr]⟩
    · exact hst e he

theorem swap_charged (p : PoolD) (ticks : TickMap) (arrays : List Int) (amount limit : Nat) (isInput aToB : Bool)
    (now : Nat) (info : AfInfo) (fuel : Nat) (u : PostSwap)
    (h : swap p ticks arrays amount limit isInput aToB now (some info) fuel = .ok u) :
    ∃ m0 rewards s, m0.staticRate = p.feeRate ∧ m0.c = info.constants ∧
      info.variables.updateReference (p.tick / (info.constants.groupSize : Int)) now info.constants = .ok m0.v ∧
      Charged m0 s ∧ swapFinish p amount limit isInput aToB now rewards s = .ok u := by
  obtain ⟨rewards, fm, s, _, _, hfm, hloop, hfin⟩ := swap_ok.mp h
  obtain ⟨m0, rfl, hr, hc, hv⟩ := new_adaptive _ _ _ _ _ _ hfm
  refine ⟨m0, rewards, s, hr, hc, hv, ?_, hfin⟩
  refine swapLoop_induct _ (Charged m0) (fun a b nai nti ntp tgt => charged_step _ m0 a b nai nti ntp tgt) fuel _ s none ?_ hloop
  exact ⟨⟨m0, rfl, rfl, rfl, rfl, rfl, id⟩, fun e he => nomatch he⟩

/-- **the invariant along a whole swap**: on an adaptive-fee pool whose stored variables satisfy the
    invariant, the variables stored after a successful swap satisfy it again (accumulator and
    reference ≤ the configured maximum), with unchanged constants -/
theorem af_inv_swap (p : PoolD) (ticks : TickMap) (arrays : List Int) (amount limit : Nat) (isInput aToB : Bool)
    (now : Nat) (info : AfInfo) (fuel : Nat) (u : PostSwap)
    (hred : info.constants.reductionFactor < 10000) (hi : AfInv info.constants info.variables)
    (h : swap p ticks arrays amount limit isInput aToB now (some info) fuel = .ok u) :
    ∃ info', u.afInfo = some info' ∧ AfInv info'.constants info'.variables := by
  obtain ⟨m0, rewards, s, _, hc0, hv0, ⟨⟨m, hm, _, hc, _, _, hinv⟩, _⟩, hfin⟩ := swap_charged _ _ _ _ _ _ _ _ _ _ _ h
  have hm0 : AfInv m0.c m.v := hinv (by rw [hc0]; exact updateReference_inv _ _ _ _ _ hred hi hv0)
  obtain ⟨_, fm', hfm', rfl⟩ := swapFinish_ok.mp hfin
  rw [hm] at hfm'
  unfold FeeMgr.updateMajorSwapTs at hfm'
  simp only [] at hfm'
  split at hfm'
  · cases hfm'
  · rename_i v' hv'
    cases hfm'
    refine ⟨_, rfl, ?_⟩
    -- the timestamp of the last major swap is the only variable the epilogue writes
    obtain ⟨b, _, ht, hf⟩ := major_swap_iff _ _ _ _ _ _ hv'
    show AfInv m.c v'
    rw [hc]
    cases b with
    | true => rw [ht rfl]; exact hm0
    | false => rw [hf rfl]; exact hm0

/-- **C14 along a whole swap**: every step of every successful swap of an adaptive-fee pool was charged the rate
    `groupRate` of SOME tick group, computed from the pool's static rate, the stored constants, and the volatility
    reference / reference group fixed by `update_reference` at the start of the swap — hence at least the static
    rate and at most 10 % (`groupRate_bounds`) -/
theorem swap_steps_charged (p : PoolD) (ticks : TickMap) (arrays : List Int) (amount limit : Nat) (isInput aToB : Bool)
    (now : Nat) (info : AfInfo) (fuel : Nat) (u : PostSwap)
    (h : swap p ticks arrays amount limit isInput aToB now (some info) fuel = .ok u) :
    ∃ v0, info.variables.updateReference (p.tick / (info.constants.groupSize : Int)) now info.constants = .ok v0 ∧
      ∀ e ∈ u.steps, ∃ g : Int, e.2.1 = groupRate p.feeRate info.constants v0.volRef v0.groupIndexRef g := by
  obtain ⟨m0, rewards, s, hr, hc, hv0, ⟨_, hst⟩, hfin⟩ := swap_charged _ _ _ _ _ _ _ _ _ _ _ h
  obtain ⟨_, _, _, rfl⟩ := swapFinish_ok.mp hfin
  rw [hr, hc] at hst
  exact ⟨m0.v, hv0, fun e he => hst e (List.mem_reverse.mp he)⟩

end WP.C14
