import WP.Gen.AnchorSpecs
import WP.Gen.PinoSpecs
import WP.Gen.Routing
/-
  Property C15 — instructions act only on accounts that belong to the pool they name.

  Same method as C04: the code tables are regenerated from /repo on every run; the tables below are
  the hand-written requirements.  `slotRows` lists EVERY account slot of every fund-moving
  instruction with the reason it cannot be substituted:
     root     – the pool (or config) the instruction names; typed `Account<Whirlpool>` (owner + discriminator)
     signer   – must sign
     pinned   – carries an address / has_one / constraint / seeds attribute (listed in `pinRows`)
     program  – `Program<T>` / `Interface<T>`: the program id is fixed by the type
     loader   – tick-array account: validated by the loader the handler calls (`loaderRows`; the loaders
                themselves — owner, discriminator, whirlpool field — are tied by the `ldta` family)
  `slots_complete` proves that the regenerated structs have no slot outside this table, so a new
  unpinned slot, or a slot that loses its attribute, breaks a theorem.
-/
namespace WP.C15
open WP WP.Gen

def pinRows : List (String × String × String × String) := [
  ("CollectFees", "position", "has_one", "whirlpool"),
  ("CollectFees", "position_token_account", "constraint", "position_token_account.mint == position.position_mint"),
  ("CollectFees", "position_token_account", "constraint", "position_token_account.amount == 1"),
  ("CollectFees", "token_owner_account_a", "constraint", "token_owner_account_a.mint == whirlpool.token_mint_a"),
  ("CollectFees", "token_vault_a", "address", "whirlpool.token_vault_a"),
  ("CollectFees", "token_owner_account_b", "constraint", "token_owner_account_b.mint == whirlpool.token_mint_b"),
  ("CollectFees", "token_vault_b", "address", "whirlpool.token_vault_b"),
  ("CollectFees", "token_program", "address", "token::ID"),
  ("CollectProtocolFees", "whirlpool", "has_one", "whirlpools_config"),
  ("CollectProtocolFees", "collect_protocol_fees_authority", "address", "whirlpools_config.collect_protocol_fees_authority"),
  ("CollectProtocolFees", "token_vault_a", "address", "whirlpool.token_vault_a"),
  ("CollectProtocolFees", "token_vault_b", "address", "whirlpool.token_vault_b"),
  ("CollectProtocolFees", "token_destination_a", "constraint", "token_destination_a.mint == whirlpool.token_mint_a"),
  ("CollectProtocolFees", "token_destination_b", "constraint", "token_destination_b.mint == whirlpool.token_mint_b"),
  ("CollectProtocolFees", "token_program", "address", "token::ID"),
  ("CollectReward", "position", "has_one", "whirlpool"),
  ("CollectReward", "position_token_account", "constraint", "position_token_account.mint == position.position_mint"),
  ("CollectReward", "position_token_account", "constraint", "position_token_account.amount == 1"),
  ("CollectReward", "reward_owner_account", "constraint", "reward_owner_account.mint == whirlpool.reward_infos[reward_index as usize].mint"),
  ("CollectReward", "reward_vault", "address", "whirlpool.reward_infos[reward_index as usize].vault"),
  ("CollectReward", "token_program", "address", "token::ID"),
  ("ModifyLiquidity", "token_program", "address", "token::ID"),
  ("ModifyLiquidity", "position", "has_one", "whirlpool"),
  ("ModifyLiquidity", "position_token_account", "constraint", "position_token_account.mint == position.position_mint"),
  ("ModifyLiquidity", "position_token_account", "constraint", "position_token_account.amount == 1"),
  ("ModifyLiquidity", "token_owner_account_a", "constraint", "token_owner_account_a.mint == whirlpool.token_mint_a"),
  ("ModifyLiquidity", "token_owner_account_b", "constraint", "token_owner_account_b.mint == whirlpool.token_mint_b"),
  ("ModifyLiquidity", "token_vault_a", "constraint", "token_vault_a.key() == whirlpool.token_vault_a"),
  ("ModifyLiquidity", "token_vault_b", "constraint", "token_vault_b.key() == whirlpool.token_vault_b"),
  ("SetRewardEmissions", "reward_authority", "address", "whirlpool.reward_authority()"),
  ("SetRewardEmissions", "reward_vault", "address", "whirlpool.reward_infos[reward_index as usize].vault"),
  ("Swap", "token_program", "address", "token::ID"),
  ("Swap", "token_owner_account_a", "constraint", "token_owner_account_a.mint == whirlpool.token_mint_a"),
  ("Swap", "token_vault_a", "address", "whirlpool.token_vault_a"),
  ("Swap", "token_owner_account_b", "constraint", "token_owner_account_b.mint == whirlpool.token_mint_b"),
  ("Swap", "token_vault_b", "address", "whirlpool.token_vault_b"),
  ("Swap", "oracle", "seeds", "[b\"oracle\", whirlpool.key().as_ref()]"),
  ("TwoHopSwap", "token_program", "address", "token::ID"),
  ("TwoHopSwap", "token_owner_account_one_a", "constraint", "token_owner_account_one_a.mint == whirlpool_one.token_mint_a"),
  ("TwoHopSwap", "token_vault_one_a", "address", "whirlpool_one.token_vault_a"),
  ("TwoHopSwap", "token_owner_account_one_b", "constraint", "token_owner_account_one_b.mint == whirlpool_one.token_mint_b"),
  ("TwoHopSwap", "token_vault_one_b", "address", "whirlpool_one.token_vault_b"),
  ("TwoHopSwap", "token_owner_account_two_a", "constraint", "token_owner_account_two_a.mint == whirlpool_two.token_mint_a"),
  ("TwoHopSwap", "token_vault_two_a", "address", "whirlpool_two.token_vault_a"),
  ("TwoHopSwap", "token_owner_account_two_b", "constraint", "token_owner_account_two_b.mint == whirlpool_two.token_mint_b"),
  ("TwoHopSwap", "token_vault_two_b", "address", "whirlpool_two.token_vault_b"),
  ("TwoHopSwap", "oracle_one", "seeds", "[b\"oracle\", whirlpool_one.key().as_ref()]"),
  ("TwoHopSwap", "oracle_two", "seeds", "[b\"oracle\", whirlpool_two.key().as_ref()]"),
  ("UpdateFeesAndRewards", "position", "has_one", "whirlpool"),
  ("CollectFeesV2", "position", "has_one", "whirlpool"),
  ("CollectFeesV2", "position_token_account", "constraint", "position_token_account.mint == position.position_mint"),
  ("CollectFeesV2", "position_token_account", "constraint", "position_token_account.amount == 1"),
  ("CollectFeesV2", "token_mint_a", "address", "whirlpool.token_mint_a"),
  ("CollectFeesV2", "token_mint_b", "address", "whirlpool.token_mint_b"),
  ("CollectFeesV2", "token_owner_account_a", "constraint", "token_owner_account_a.mint == whirlpool.token_mint_a"),
  ("CollectFeesV2", "token_vault_a", "address", "whirlpool.token_vault_a"),
  ("CollectFeesV2", "token_owner_account_b", "constraint", "token_owner_account_b.mint == whirlpool.token_mint_b"),
  ("CollectFeesV2", "token_vault_b", "address", "whirlpool.token_vault_b"),
  ("CollectFeesV2", "token_program_a", "address", "*token_mint_a.to_account_info().owner"),
  ("CollectFeesV2", "token_program_b", "address", "*token_mint_b.to_account_info().owner"),
  ("CollectProtocolFeesV2", "whirlpool", "has_one", "whirlpools_config"),
  ("CollectProtocolFeesV2", "collect_protocol_fees_authority", "address", "whirlpools_config.collect_protocol_fees_authority"),
  ("CollectProtocolFeesV2", "token_mint_a", "address", "whirlpool.token_mint_a"),
  ("CollectProtocolFeesV2", "token_mint_b", "address", "whirlpool.token_mint_b"),
  ("CollectProtocolFeesV2", "token_vault_a", "address", "whirlpool.token_vault_a"),
  ("CollectProtocolFeesV2", "token_vault_b", "address", "whirlpool.token_vault_b"),
  ("CollectProtocolFeesV2", "token_destination_a", "constraint", "token_destination_a.mint == whirlpool.token_mint_a"),
  ("CollectProtocolFeesV2", "token_destination_b", "constraint", "token_destination_b.mint == whirlpool.token_mint_b"),
  ("CollectProtocolFeesV2", "token_program_a", "address", "*token_mint_a.to_account_info().owner"),
  ("CollectProtocolFeesV2", "token_program_b", "address", "*token_mint_b.to_account_info().owner"),
  ("CollectRewardV2", "position", "has_one", "whirlpool"),
  ("CollectRewardV2", "position_token_account", "constraint", "position_token_account.mint == position.position_mint"),
  ("CollectRewardV2", "position_token_account", "constraint", "position_token_account.amount == 1"),
  ("CollectRewardV2", "reward_owner_account", "constraint", "reward_owner_account.mint == whirlpool.reward_infos[reward_index as usize].mint"),
  ("CollectRewardV2", "reward_mint", "address", "whirlpool.reward_infos[reward_index as usize].mint"),
  ("CollectRewardV2", "reward_vault", "address", "whirlpool.reward_infos[reward_index as usize].vault"),
  ("CollectRewardV2", "reward_token_program", "address", "*reward_mint.to_account_info().owner"),
  ("ModifyLiquidityV2", "token_program_a", "address", "*token_mint_a.to_account_info().owner"),
  ("ModifyLiquidityV2", "token_program_b", "address", "*token_mint_b.to_account_info().owner"),
  ("ModifyLiquidityV2", "position", "has_one", "whirlpool"),
  ("ModifyLiquidityV2", "position_token_account", "constraint", "position_token_account.mint == position.position_mint"),
  ("ModifyLiquidityV2", "position_token_account", "constraint", "position_token_account.amount == 1"),
  ("ModifyLiquidityV2", "token_mint_a", "address", "whirlpool.token_mint_a"),
  ("ModifyLiquidityV2", "token_mint_b", "address", "whirlpool.token_mint_b"),
  ("ModifyLiquidityV2", "token_owner_account_a", "constraint", "token_owner_account_a.mint == whirlpool.token_mint_a"),
  ("ModifyLiquidityV2", "token_owner_account_b", "constraint", "token_owner_account_b.mint == whirlpool.token_mint_b"),
  ("ModifyLiquidityV2", "token_vault_a", "constraint", "token_vault_a.key() == whirlpool.token_vault_a"),
  ("ModifyLiquidityV2", "token_vault_b", "constraint", "token_vault_b.key() == whirlpool.token_vault_b"),
  ("SetRewardEmissionsV2", "reward_authority", "address", "whirlpool.reward_authority()"),
  ("SetRewardEmissionsV2", "reward_vault", "address", "whirlpool.reward_infos[reward_index as usize].vault"),
  ("SwapV2", "token_program_a", "address", "*token_mint_a.to_account_info().owner"),
  ("SwapV2", "token_program_b", "address", "*token_mint_b.to_account_info().owner"),
  ("SwapV2", "token_mint_a", "address", "whirlpool.token_mint_a"),
  ("SwapV2", "token_mint_b", "address", "whirlpool.token_mint_b"),
  ("SwapV2", "token_owner_account_a", "constraint", "token_owner_account_a.mint == whirlpool.token_mint_a"),
  ("SwapV2", "token_vault_a", "address", "whirlpool.token_vault_a"),
  ("SwapV2", "token_owner_account_b", "constraint", "token_owner_account_b.mint == whirlpool.token_mint_b"),
  ("SwapV2", "token_vault_b", "address", "whirlpool.token_vault_b"),
  ("SwapV2", "oracle", "seeds", "[b\"oracle\", whirlpool.key().as_ref()]"),
  ("TwoHopSwapV2", "token_mint_input", "address", "whirlpool_one.input_token_mint(a_to_b_one)"),
  ("TwoHopSwapV2", "token_mint_intermediate", "address", "whirlpool_one.output_token_mint(a_to_b_one)"),
  ("TwoHopSwapV2", "token_mint_output", "address", "whirlpool_two.output_token_mint(a_to_b_two)"),
  ("TwoHopSwapV2", "token_program_input", "address", "*token_mint_input.to_account_info().owner"),
  ("TwoHopSwapV2", "token_program_intermediate", "address", "*token_mint_intermediate.to_account_info().owner"),
  ("TwoHopSwapV2", "token_program_output", "address", "*token_mint_output.to_account_info().owner"),
  ("TwoHopSwapV2", "token_owner_account_input", "constraint", "token_owner_account_input.mint == token_mint_input.key()"),
  ("TwoHopSwapV2", "token_vault_one_input", "address", "whirlpool_one.input_token_vault(a_to_b_one)"),
  ("TwoHopSwapV2", "token_vault_one_intermediate", "address", "whirlpool_one.output_token_vault(a_to_b_one)"),
  ("TwoHopSwapV2", "token_vault_two_intermediate", "address", "whirlpool_two.input_token_vault(a_to_b_two)"),
  ("TwoHopSwapV2", "token_vault_two_output", "address", "whirlpool_two.output_token_vault(a_to_b_two)"),
  ("TwoHopSwapV2", "token_owner_account_output", "constraint", "token_owner_account_output.mint == token_mint_output.key()"),
  ("TwoHopSwapV2", "oracle_one", "seeds", "[b\"oracle\", whirlpool_one.key().as_ref()]"),
  ("TwoHopSwapV2", "oracle_two", "seeds", "[b\"oracle\", whirlpool_two.key().as_ref()]"),
  -- the update authority recorded in the position / bundle token's metadata is the program's constant
  ("OpenPositionWithMetadata", "metadata_update_auth", "address", "WP_NFT_UPDATE_AUTH"),
  ("OpenPositionWithTokenExtensions", "metadata_update_auth", "address", "WP_NFT_UPDATE_AUTH"),
  ("InitializePositionBundleWithMetadata", "metadata_update_auth", "address", "WPB_NFT_UPDATE_AUTH")]

/-- every slot of every fund-moving accounts struct, with the reason it cannot be substituted -/
def slotRows : List (String × String × String) := [
  ("CollectFees", "whirlpool", "root"),
  ("CollectFees", "position_authority", "signer"),
  ("CollectFees", "position", "pinned"),
  ("CollectFees", "position_token_account", "pinned"),
  ("CollectFees", "token_owner_account_a", "pinned"),
  ("CollectFees", "token_vault_a", "pinned"),
  ("CollectFees", "token_owner_account_b", "pinned"),
  ("CollectFees", "token_vault_b", "pinned"),
  ("CollectFees", "token_program", "pinned"),
  ("CollectProtocolFees", "whirlpools_config", "root"),
  ("CollectProtocolFees", "whirlpool", "pinned"),
  ("CollectProtocolFees", "collect_protocol_fees_authority", "signer"),
  ("CollectProtocolFees", "token_vault_a", "pinned"),
  ("CollectProtocolFees", "token_vault_b", "pinned"),
  ("CollectProtocolFees", "token_destination_a", "pinned"),
  ("CollectProtocolFees", "token_destination_b", "pinned"),
  ("CollectProtocolFees", "token_program", "pinned"),
  ("CollectReward", "whirlpool", "root"),
  ("CollectReward", "position_authority", "signer"),
  ("CollectReward", "position", "pinned"),
  ("CollectReward", "position_token_account", "pinned"),
  ("CollectReward", "reward_owner_account", "pinned"),
  ("CollectReward", "reward_vault", "pinned"),
  ("CollectReward", "token_program", "pinned"),
  ("ModifyLiquidity", "whirlpool", "root"),
  ("ModifyLiquidity", "token_program", "pinned"),
  ("ModifyLiquidity", "position_authority", "signer"),
  ("ModifyLiquidity", "position", "pinned"),
  ("ModifyLiquidity", "position_token_account", "pinned"),
  ("ModifyLiquidity", "token_owner_account_a", "pinned"),
  ("ModifyLiquidity", "token_owner_account_b", "pinned"),
  ("ModifyLiquidity", "token_vault_a", "pinned"),
  ("ModifyLiquidity", "token_vault_b", "pinned"),
  ("ModifyLiquidity", "tick_array_lower", "loader"),
  ("ModifyLiquidity", "tick_array_upper", "loader"),
  ("SetRewardEmissions", "whirlpool", "root"),
  ("SetRewardEmissions", "reward_authority", "signer"),
  ("SetRewardEmissions", "reward_vault", "pinned"),
  ("Swap", "token_program", "pinned"),
  ("Swap", "token_authority", "signer"),
  ("Swap", "whirlpool", "root"),
  ("Swap", "token_owner_account_a", "pinned"),
  ("Swap", "token_vault_a", "pinned"),
  ("Swap", "token_owner_account_b", "pinned"),
  ("Swap", "token_vault_b", "pinned"),
  ("Swap", "tick_array_0", "loader"),
  ("Swap", "tick_array_1", "loader"),
  ("Swap", "tick_array_2", "loader"),
  ("Swap", "oracle", "pinned"),
  ("TwoHopSwap", "token_program", "pinned"),
  ("TwoHopSwap", "token_authority", "signer"),
  ("TwoHopSwap", "whirlpool_one", "root"),
  ("TwoHopSwap", "whirlpool_two", "root"),
  ("TwoHopSwap", "token_owner_account_one_a", "pinned"),
  ("TwoHopSwap", "token_vault_one_a", "pinned"),
  ("TwoHopSwap", "token_owner_account_one_b", "pinned"),
  ("TwoHopSwap", "token_vault_one_b", "pinned"),
  ("TwoHopSwap", "token_owner_account_two_a", "pinned"),
  ("TwoHopSwap", "token_vault_two_a", "pinned"),
  ("TwoHopSwap", "token_owner_account_two_b", "pinned"),
  ("TwoHopSwap", "token_vault_two_b", "pinned"),
  ("TwoHopSwap", "tick_array_one_0", "loader"),
  ("TwoHopSwap", "tick_array_one_1", "loader"),
  ("TwoHopSwap", "tick_array_one_2", "loader"),
  ("TwoHopSwap", "tick_array_two_0", "loader"),
  ("TwoHopSwap", "tick_array_two_1", "loader"),
  ("TwoHopSwap", "tick_array_two_2", "loader"),
  ("TwoHopSwap", "oracle_one", "pinned"),
  ("TwoHopSwap", "oracle_two", "pinned"),
  ("UpdateFeesAndRewards", "whirlpool", "root"),
  ("UpdateFeesAndRewards", "position", "pinned"),
  ("UpdateFeesAndRewards", "tick_array_lower", "loader"),
  ("UpdateFeesAndRewards", "tick_array_upper", "loader"),
  ("CollectFeesV2", "whirlpool", "root"),
  ("CollectFeesV2", "position_authority", "signer"),
  ("CollectFeesV2", "position", "pinned"),
  ("CollectFeesV2", "position_token_account", "pinned"),
  ("CollectFeesV2", "token_mint_a", "pinned"),
  ("CollectFeesV2", "token_mint_b", "pinned"),
  ("CollectFeesV2", "token_owner_account_a", "pinned"),
  ("CollectFeesV2", "token_vault_a", "pinned"),
  ("CollectFeesV2", "token_owner_account_b", "pinned"),
  ("CollectFeesV2", "token_vault_b", "pinned"),
  ("CollectFeesV2", "token_program_a", "pinned"),
  ("CollectFeesV2", "token_program_b", "pinned"),
  ("CollectFeesV2", "memo_program", "program"),
  ("CollectProtocolFeesV2", "whirlpools_config", "root"),
  ("CollectProtocolFeesV2", "whirlpool", "pinned"),
  ("CollectProtocolFeesV2", "collect_protocol_fees_authority", "signer"),
  ("CollectProtocolFeesV2", "token_mint_a", "pinned"),
  ("CollectProtocolFeesV2", "token_mint_b", "pinned"),
  ("CollectProtocolFeesV2", "token_vault_a", "pinned"),
  ("CollectProtocolFeesV2", "token_vault_b", "pinned"),
  ("CollectProtocolFeesV2", "token_destination_a", "pinned"),
  ("CollectProtocolFeesV2", "token_destination_b", "pinned"),
  ("CollectProtocolFeesV2", "token_program_a", "pinned"),
  ("CollectProtocolFeesV2", "token_program_b", "pinned"),
  ("CollectProtocolFeesV2", "memo_program", "program"),
  ("CollectRewardV2", "whirlpool", "root"),
  ("CollectRewardV2", "position_authority", "signer"),
  ("CollectRewardV2", "position", "pinned"),
  ("CollectRewardV2", "position_token_account", "pinned"),
  ("CollectRewardV2", "reward_owner_account", "pinned"),
  ("CollectRewardV2", "reward_mint", "pinned"),
  ("CollectRewardV2", "reward_vault", "pinned"),
  ("CollectRewardV2", "reward_token_program", "pinned"),
  ("CollectRewardV2", "memo_program", "program"),
  ("ModifyLiquidityV2", "whirlpool", "root"),
  ("ModifyLiquidityV2", "token_program_a", "pinned"),
  ("ModifyLiquidityV2", "token_program_b", "pinned"),
  ("ModifyLiquidityV2", "memo_program", "program"),
  ("ModifyLiquidityV2", "position_authority", "signer"),
  ("ModifyLiquidityV2", "position", "pinned"),
  ("ModifyLiquidityV2", "position_token_account", "pinned"),
  ("ModifyLiquidityV2", "token_mint_a", "pinned"),
  ("ModifyLiquidityV2", "token_mint_b", "pinned"),
  ("ModifyLiquidityV2", "token_owner_account_a", "pinned"),
  ("ModifyLiquidityV2", "token_owner_account_b", "pinned"),
  ("ModifyLiquidityV2", "token_vault_a", "pinned"),
  ("ModifyLiquidityV2", "token_vault_b", "pinned"),
  ("ModifyLiquidityV2", "tick_array_lower", "loader"),
  ("ModifyLiquidityV2", "tick_array_upper", "loader"),
  ("SetRewardEmissionsV2", "whirlpool", "root"),
  ("SetRewardEmissionsV2", "reward_authority", "signer"),
  ("SetRewardEmissionsV2", "reward_vault", "pinned"),
  ("SwapV2", "token_program_a", "pinned"),
  ("SwapV2", "token_program_b", "pinned"),
  ("SwapV2", "memo_program", "program"),
  ("SwapV2", "token_authority", "signer"),
  ("SwapV2", "whirlpool", "root"),
  ("SwapV2", "token_mint_a", "pinned"),
  ("SwapV2", "token_mint_b", "pinned"),
  ("SwapV2", "token_owner_account_a", "pinned"),
  ("SwapV2", "token_vault_a", "pinned"),
  ("SwapV2", "token_owner_account_b", "pinned"),
  ("SwapV2", "token_vault_b", "pinned"),
  ("SwapV2", "tick_array_0", "loader"),
  ("SwapV2", "tick_array_1", "loader"),
  ("SwapV2", "tick_array_2", "loader"),
  ("SwapV2", "oracle", "pinned"),
  ("TwoHopSwapV2", "whirlpool_one", "root"),
  ("TwoHopSwapV2", "whirlpool_two", "root"),
  ("TwoHopSwapV2", "token_mint_input", "pinned"),
  ("TwoHopSwapV2", "token_mint_intermediate", "pinned"),
  ("TwoHopSwapV2", "token_mint_output", "pinned"),
  ("TwoHopSwapV2", "token_program_input", "pinned"),
  ("TwoHopSwapV2", "token_program_intermediate", "pinned"),
  ("TwoHopSwapV2", "token_program_output", "pinned"),
  ("TwoHopSwapV2", "token_owner_account_input", "pinned"),
  ("TwoHopSwapV2", "token_vault_one_input", "pinned"),
  ("TwoHopSwapV2", "token_vault_one_intermediate", "pinned"),
  ("TwoHopSwapV2", "token_vault_two_intermediate", "pinned"),
  ("TwoHopSwapV2", "token_vault_two_output", "pinned"),
  ("TwoHopSwapV2", "token_owner_account_output", "pinned"),
  ("TwoHopSwapV2", "token_authority", "signer"),
  ("TwoHopSwapV2", "tick_array_one_0", "loader"),
  ("TwoHopSwapV2", "tick_array_one_1", "loader"),
  ("TwoHopSwapV2", "tick_array_one_2", "loader"),
  ("TwoHopSwapV2", "tick_array_two_0", "loader"),
  ("TwoHopSwapV2", "tick_array_two_1", "loader"),
  ("TwoHopSwapV2", "tick_array_two_2", "loader"),
  ("TwoHopSwapV2", "oracle_one", "pinned"),
  ("TwoHopSwapV2", "oracle_two", "pinned"),
  ("TwoHopSwapV2", "memo_program", "program")]

def loaderRows : List (String × String) := [
  ("instructions/increase_liquidity.rs", "TickArraysMut::load( &ctx.accounts.tick_array_lower, &ctx.accounts.tick_array_upper, &ctx.accounts.whirlpool.key(), )"),
  ("instructions/swap.rs", "OracleAccessor::new(whirlpool, ctx.accounts.oracle.to_account_info())"),
  ("instructions/swap.rs", "SparseSwapTickSequenceBuilder::new( vec![ ctx.accounts.tick_array_0.to_account_info(), ctx.accounts.tick_array_1.to_account_info(), ctx.accounts.tick_array_2.to_account_info(), ], None, )"),
  ("instructions/two_hop_swap.rs", "OracleAccessor::new(whirlpool_one, ctx.accounts.oracle_one.to_account_info())"),
  ("instructions/two_hop_swap.rs", "OracleAccessor::new(whirlpool_two, ctx.accounts.oracle_two.to_account_info())"),
  ("instructions/two_hop_swap.rs", "SparseSwapTickSequenceBuilder::new( vec![ ctx.accounts.tick_array_one_0.to_account_info(), ctx.accounts.tick_array_one_1.to_account_info(), ctx.accounts.tick_array_one_2.to_account_info(), ], None, )"),
  ("instructions/two_hop_swap.rs", "SparseSwapTickSequenceBuilder::new( vec![ ctx.accounts.tick_array_two_0.to_account_info(), ctx.accounts.tick_array_two_1.to_account_info(), ctx.accounts.tick_array_two_2.to_account_info(), ], None, )"),
  ("instructions/update_fees_and_rewards.rs", "load_tick_array(&ctx.accounts.tick_array_lower, &whirlpool.key())"),
  ("instructions/update_fees_and_rewards.rs", "load_tick_array(&ctx.accounts.tick_array_upper, &whirlpool.key())"),
  ("instructions/v2/increase_liquidity.rs", "TickArraysMut::load( &ctx.accounts.tick_array_lower, &ctx.accounts.tick_array_upper, &ctx.accounts.whirlpool.key(), )"),
  ("instructions/v2/swap.rs", "OracleAccessor::new(whirlpool, ctx.accounts.oracle.to_account_info())"),
  ("instructions/v2/swap.rs", "SparseSwapTickSequenceBuilder::new( vec![ ctx.accounts.tick_array_0.to_account_info(), ctx.accounts.tick_array_1.to_account_info(), ctx.accounts.tick_array_2.to_account_info(), ], remaining_accounts.supplemental_tick_arrays, )"),
  ("instructions/v2/two_hop_swap.rs", "OracleAccessor::new(whirlpool_one, ctx.accounts.oracle_one.to_account_info())"),
  ("instructions/v2/two_hop_swap.rs", "OracleAccessor::new(whirlpool_two, ctx.accounts.oracle_two.to_account_info())"),
  ("instructions/v2/two_hop_swap.rs", "SparseSwapTickSequenceBuilder::new( vec![ ctx.accounts.tick_array_one_0.to_account_info(), ctx.accounts.tick_array_one_1.to_account_info(), ctx.accounts.tick_array_one_2.to_account_info(), ], remaining_accounts.supplemental_tick_arrays_one, )"),
  ("instructions/v2/two_hop_swap.rs", "SparseSwapTickSequenceBuilder::new( vec![ ctx.accounts.tick_array_two_0.to_account_info(), ctx.accounts.tick_array_two_1.to_account_info(), ctx.accounts.tick_array_two_2.to_account_info(), ], remaining_accounts.supplemental_tick_arrays_two, )")]

def twoHopRows : List (String × String) := [
  ("instructions/two_hop_swap.rs", "whirlpool_one.key() == whirlpool_two.key() => DuplicateTwoHopPool"),
  ("instructions/two_hop_swap.rs", "swap_one_output_mint != swap_two_input_mint => InvalidIntermediaryMint"),
  ("instructions/two_hop_swap.rs", "swap_calc_one_output != swap_calc_two_input => IntermediateTokenAmountMismatch"),
  ("instructions/v2/two_hop_swap.rs", "whirlpool_one.key() == whirlpool_two.key() => DuplicateTwoHopPool"),
  ("instructions/v2/two_hop_swap.rs", "swap_one_output_mint != swap_two_input_mint => InvalidIntermediaryMint"),
  ("instructions/v2/two_hop_swap.rs", "swap_calc_one_output != swap_calc_two_input => IntermediateTokenAmountMismatch")]

def pinoPinRows : List (String × String × String × String) := [
  ("pinocchio/instructions/decrease_liquidity.rs", "load_account_mut", "whirlpool_info", "MemoryMappedWhirlpool"),
  ("pinocchio/instructions/decrease_liquidity.rs", "load_account_mut", "position_info", "MemoryMappedPosition"),
  ("pinocchio/instructions/decrease_liquidity.rs", "verify_address", "position.whirlpool()", "whirlpool_info.key()"),
  ("pinocchio/instructions/decrease_liquidity.rs", "load_token_program_account", "position_token_account_info", "MemoryMappedTokenAccount"),
  ("pinocchio/instructions/decrease_liquidity.rs", "verify_constraint", "position_token_account.mint() == position.position_mint()", ""),
  ("pinocchio/instructions/decrease_liquidity.rs", "verify_constraint", "position_token_account.amount() == 1", ""),
  ("pinocchio/instructions/decrease_liquidity.rs", "verify_address", "token_vault_a_info.key()", "whirlpool.token_vault_a()"),
  ("pinocchio/instructions/decrease_liquidity.rs", "verify_address", "token_vault_b_info.key()", "whirlpool.token_vault_b()"),
  ("pinocchio/instructions/decrease_liquidity.rs", "core", "TickArraysMut::load( tick_array_lower_info, tick_array_upper_info, whirlpool_info.key(), )", ""),
  ("pinocchio/instructions/decrease_liquidity_v2.rs", "load_account_mut", "whirlpool_info", "MemoryMappedWhirlpool"),
  ("pinocchio/instructions/decrease_liquidity_v2.rs", "verify_address", "token_program_a_info.key()", "token_mint_a_info.owner()"),
  ("pinocchio/instructions/decrease_liquidity_v2.rs", "verify_address", "token_program_b_info.key()", "token_mint_b_info.owner()"),
  ("pinocchio/instructions/decrease_liquidity_v2.rs", "load_account_mut", "position_info", "MemoryMappedPosition"),
  ("pinocchio/instructions/decrease_liquidity_v2.rs", "verify_address", "position.whirlpool()", "whirlpool_info.key()"),
  ("pinocchio/instructions/decrease_liquidity_v2.rs", "load_token_program_account", "position_token_account_info", "MemoryMappedTokenAccount"),
  ("pinocchio/instructions/decrease_liquidity_v2.rs", "verify_constraint", "position_token_account.mint() == position.position_mint()", ""),
  ("pinocchio/instructions/decrease_liquidity_v2.rs", "verify_constraint", "position_token_account.amount() == 1", ""),
  ("pinocchio/instructions/decrease_liquidity_v2.rs", "verify_address", "token_mint_a_info.key()", "whirlpool.token_mint_a()"),
  ("pinocchio/instructions/decrease_liquidity_v2.rs", "verify_address", "token_mint_b_info.key()", "whirlpool.token_mint_b()"),
  ("pinocchio/instructions/decrease_liquidity_v2.rs", "verify_address", "token_vault_a_info.key()", "whirlpool.token_vault_a()"),
  ("pinocchio/instructions/decrease_liquidity_v2.rs", "verify_address", "token_vault_b_info.key()", "whirlpool.token_vault_b()"),
  ("pinocchio/instructions/decrease_liquidity_v2.rs", "core", "TickArraysMut::load( tick_array_lower_info, tick_array_upper_info, whirlpool_info.key(), )", ""),
  ("pinocchio/instructions/increase_liquidity.rs", "load_account_mut", "whirlpool_info", "MemoryMappedWhirlpool"),
  ("pinocchio/instructions/increase_liquidity.rs", "load_account_mut", "position_info", "MemoryMappedPosition"),
  ("pinocchio/instructions/increase_liquidity.rs", "verify_address", "position.whirlpool()", "whirlpool_info.key()"),
  ("pinocchio/instructions/increase_liquidity.rs", "load_token_program_account", "position_token_account_info", "MemoryMappedTokenAccount"),
  ("pinocchio/instructions/increase_liquidity.rs", "verify_constraint", "position_token_account.mint() == position.position_mint()", ""),
  ("pinocchio/instructions/increase_liquidity.rs", "verify_constraint", "position_token_account.amount() == 1", ""),
  ("pinocchio/instructions/increase_liquidity.rs", "verify_address", "token_vault_a_info.key()", "whirlpool.token_vault_a()"),
  ("pinocchio/instructions/increase_liquidity.rs", "verify_address", "token_vault_b_info.key()", "whirlpool.token_vault_b()"),
  ("pinocchio/instructions/increase_liquidity.rs", "core", "TickArraysMut::load( tick_array_lower_info, tick_array_upper_info, whirlpool_info.key(), )", ""),
  ("pinocchio/instructions/increase_liquidity_by_token_amounts_v2.rs", "load_account_mut", "whirlpool_info", "MemoryMappedWhirlpool"),
  ("pinocchio/instructions/increase_liquidity_by_token_amounts_v2.rs", "verify_address", "token_program_a_info.key()", "token_mint_a_info.owner()"),
  ("pinocchio/instructions/increase_liquidity_by_token_amounts_v2.rs", "verify_address", "token_program_b_info.key()", "token_mint_b_info.owner()"),
  ("pinocchio/instructions/increase_liquidity_by_token_amounts_v2.rs", "load_account_mut", "position_info", "MemoryMappedPosition"),
  ("pinocchio/instructions/increase_liquidity_by_token_amounts_v2.rs", "verify_address", "position.whirlpool()", "whirlpool_info.key()"),
  ("pinocchio/instructions/increase_liquidity_by_token_amounts_v2.rs", "load_token_program_account", "position_token_account_info", "MemoryMappedTokenAccount"),
  ("pinocchio/instructions/increase_liquidity_by_token_amounts_v2.rs", "verify_constraint", "position_token_account.mint() == position.position_mint()", ""),
  ("pinocchio/instructions/increase_liquidity_by_token_amounts_v2.rs", "verify_constraint", "position_token_account.amount() == 1", ""),
  ("pinocchio/instructions/increase_liquidity_by_token_amounts_v2.rs", "verify_address", "token_mint_a_info.key()", "whirlpool.token_mint_a()"),
  ("pinocchio/instructions/increase_liquidity_by_token_amounts_v2.rs", "verify_address", "token_mint_b_info.key()", "whirlpool.token_mint_b()"),
  ("pinocchio/instructions/increase_liquidity_by_token_amounts_v2.rs", "verify_address", "token_vault_a_info.key()", "whirlpool.token_vault_a()"),
  ("pinocchio/instructions/increase_liquidity_by_token_amounts_v2.rs", "verify_address", "token_vault_b_info.key()", "whirlpool.token_vault_b()"),
  ("pinocchio/instructions/increase_liquidity_by_token_amounts_v2.rs", "core", "TickArraysMut::load( tick_array_lower_info, tick_array_upper_info, whirlpool_info.key(), )", ""),
  ("pinocchio/instructions/increase_liquidity_v2.rs", "load_account_mut", "whirlpool_info", "MemoryMappedWhirlpool"),
  ("pinocchio/instructions/increase_liquidity_v2.rs", "verify_address", "token_program_a_info.key()", "token_mint_a_info.owner()"),
  ("pinocchio/instructions/increase_liquidity_v2.rs", "verify_address", "token_program_b_info.key()", "token_mint_b_info.owner()"),
  ("pinocchio/instructions/increase_liquidity_v2.rs", "load_account_mut", "position_info", "MemoryMappedPosition"),
  ("pinocchio/instructions/increase_liquidity_v2.rs", "verify_address", "position.whirlpool()", "whirlpool_info.key()"),
  ("pinocchio/instructions/increase_liquidity_v2.rs", "load_token_program_account", "position_token_account_info", "MemoryMappedTokenAccount"),
  ("pinocchio/instructions/increase_liquidity_v2.rs", "verify_constraint", "position_token_account.mint() == position.position_mint()", ""),
  ("pinocchio/instructions/increase_liquidity_v2.rs", "verify_constraint", "position_token_account.amount() == 1", ""),
  ("pinocchio/instructions/increase_liquidity_v2.rs", "verify_address", "token_mint_a_info.key()", "whirlpool.token_mint_a()"),
  ("pinocchio/instructions/increase_liquidity_v2.rs", "verify_address", "token_mint_b_info.key()", "whirlpool.token_mint_b()"),
  ("pinocchio/instructions/increase_liquidity_v2.rs", "verify_address", "token_vault_a_info.key()", "whirlpool.token_vault_a()"),
  ("pinocchio/instructions/increase_liquidity_v2.rs", "verify_address", "token_vault_b_info.key()", "whirlpool.token_vault_b()"),
  ("pinocchio/instructions/increase_liquidity_v2.rs", "core", "TickArraysMut::load( tick_array_lower_info, tick_array_upper_info, whirlpool_info.key(), )", ""),
  ("pinocchio/instructions/reposition_liquidity_v2.rs", "load_account_mut", "whirlpool_info", "MemoryMappedWhirlpool"),
  ("pinocchio/instructions/reposition_liquidity_v2.rs", "verify_address", "token_program_a_info.key()", "token_mint_a_info.owner()"),
  ("pinocchio/instructions/reposition_liquidity_v2.rs", "verify_address", "token_program_b_info.key()", "token_mint_b_info.owner()"),
  ("pinocchio/instructions/reposition_liquidity_v2.rs", "load_account_mut", "position_account_info", "MemoryMappedPosition"),
  ("pinocchio/instructions/reposition_liquidity_v2.rs", "verify_address", "position.whirlpool()", "whirlpool_info.key()"),
  ("pinocchio/instructions/reposition_liquidity_v2.rs", "load_token_program_account", "position_token_account_info", "MemoryMappedTokenAccount"),
  ("pinocchio/instructions/reposition_liquidity_v2.rs", "verify_constraint", "position_token_account.mint() == position.position_mint()", ""),
  ("pinocchio/instructions/reposition_liquidity_v2.rs", "verify_constraint", "position_token_account.amount() == 1", ""),
  ("pinocchio/instructions/reposition_liquidity_v2.rs", "verify_address", "token_mint_a_info.key()", "whirlpool.token_mint_a()"),
  ("pinocchio/instructions/reposition_liquidity_v2.rs", "verify_address", "token_mint_b_info.key()", "whirlpool.token_mint_b()"),
  ("pinocchio/instructions/reposition_liquidity_v2.rs", "verify_address", "token_vault_a_info.key()", "whirlpool.token_vault_a()"),
  ("pinocchio/instructions/reposition_liquidity_v2.rs", "verify_address", "token_vault_b_info.key()", "whirlpool.token_vault_b()")]

/-- the fund-moving accounts structs covered by the slot table -/
def fundMoving : List String :=
  ["Swap", "SwapV2", "TwoHopSwap", "TwoHopSwapV2", "CollectFees", "CollectFeesV2", "CollectReward", "CollectRewardV2",
   "CollectProtocolFees", "CollectProtocolFeesV2", "ModifyLiquidity", "ModifyLiquidityV2", "UpdateFeesAndRewards",
   "SetRewardEmissions", "SetRewardEmissionsV2"]

def pinOk (r : String × String × String × String) : Bool := hasAttr anchorSpecs r.1 r.2.1 r.2.2.1 r.2.2.2

def slotOk (r : String × String × String) : Bool :=
  match findSpec anchorSpecs r.1 with
  | none => false
  | some s =>
    match findField s r.2.1 with
    | none => false
    | some f =>
      if r.2.2 == "signer" then f.kind == "Signer"
      else if r.2.2 == "pinned" then pinRows.any fun p => p.1 == r.1 && p.2.1 == r.2.1
      else if r.2.2 == "program" then f.kind == "Program" || f.kind == "Interface" || f.kind == "Sysvar"
      else if r.2.2 == "root" then f.kind == "Account" && (f.ty == "Whirlpool" || f.ty == "WhirlpoolsConfig")
      else if r.2.2 == "loader" then f.kind == "UncheckedAccount"
      else false

/-- the regenerated struct has exactly the slots of the table (no unlisted slot) -/
def slotsComplete (spec : String) : Bool :=
  match findSpec anchorSpecs spec with
  | none => false
  | some s => s.fields.all fun f => slotRows.any fun r => r.1 == spec && r.2.1 == f.name

def loaderOk (r : String × String) : Bool :=
  match handlerGuards.find? (·.1 == r.1) with
  | none => false
  | some (_, gs) => gs.any fun g => g.1 == "loader" && g.2 == r.2

def twoHopOk (r : String × String) : Bool :=
  match handlerGuards.find? (·.1 == r.1) with
  | none => false
  | some (_, gs) =>
    -- the rejection is present and precedes the state-changing effect
    let before := gs.takeWhile fun g => g.1 != "effect"
    before.any fun g => g.1 == "reject" && g.2 == r.2

def pinoPinOk (r : String × String × String × String) : Bool :=
  match pinoSpecs.find? (·.file == r.1) with
  | none => false
  | some s =>
    if r.2.1 == "core" then s.core.any (· == r.2.2.1)
    else s.checks.any fun k => k.1 == r.2.1 && k.2.1 == r.2.2.1 && k.2.2 == r.2.2.2

/-- the Pinocchio prologue labels every slot it reads as mutable where the handler writes to it -/
def pinoLabelsOk : Bool :=
  pinoSpecs.all fun s =>
    s.labels.any (fun l => l.1 == "whirlpool_info" && l.2 == "next_mut") &&
    s.labels.any (fun l => l.1 == "token_vault_a_info" && l.2 == "next_mut") &&
    s.labels.any (fun l => l.1 == "token_vault_b_info" && l.2 == "next_mut")

/-- GENERIC back-reference rule over EVERY regenerated accounts struct (fund-moving or not): wherever an existing
    position account and a whirlpool account appear together, the position is tied to that pool by `has_one`
    (a struct that CREATES the position — `init` — writes the link itself).  Seed C15b_8 (reset_position_range
    without the link) showed that the per-instruction tables above covered fund-moving instructions only. -/
def positionLinkOk (s : AccSpec) : Bool :=
  match findField s "position", findField s "whirlpool" with
  | some p, some _ =>
    p.attrs.any (fun a => a.1 == "init") || p.attrs.any (fun a => a.1 == "has_one" && a.2.1 == "whirlpool")
  | _, _ => true

/-- likewise: wherever a position and its token account appear together (and the token account is not being
    created together with the position), the token account is tied to the position's mint and holds exactly one token -/
def positionTokenLinkOk (s : AccSpec) : Bool :=
  match findField s "position", findField s "position_token_account" with
  | some ps, some t =>
    ps.attrs.any (fun a => a.1 == "init") || t.attrs.any (fun a => a.1 == "init") ||
    (t.attrs.any (fun a => a.1 == "constraint" && a.2.1 == "position_token_account.mint == position.position_mint") &&
     t.attrs.any (fun a => a.1 == "constraint" && a.2.1 == "position_token_account.amount == 1"))
  | _, _ => true

/-- an account slot that the instruction itself creates (Anchor `init`, or a fresh keypair that signs) -/
def created (f : AccField) : Bool := f.kind == "Signer" || f.attrs.any (fun a => a.1 == "init")

def hasAttr (f : AccField) (kw ex : String) : Bool := f.attrs.any fun a => a.1 == kw && a.2.1 == ex

/-- `b` appears together with `a` only created, or tied to it by one of the listed attributes -/
def linkOk (a b : String) (ties : List (String × String)) (s : AccSpec) : Bool :=
  match findField s a, findField s b with
  | some _, some f => created f || ties.any fun t => hasAttr f t.1 t.2
  | _, _ => true

/-- the generic back-reference rules, over EVERY regenerated accounts struct:
    a pool's token vaults and reward vaults by address; fee tiers, adaptive fee tiers, config extensions, token
    badges and pools by `has_one` to the config they are used with; the oracle by `has_one` or by its seeds; a
    bundle's token account by mint and amount; a bundled position by seeds over the bundle's mint -/
def backRefsOk (s : AccSpec) : Bool :=
  linkOk "whirlpool" "token_vault_a" [("address", "whirlpool.token_vault_a"), ("constraint", "token_vault_a.key() == whirlpool.token_vault_a")] s &&
  linkOk "whirlpool" "token_vault_b" [("address", "whirlpool.token_vault_b"), ("constraint", "token_vault_b.key() == whirlpool.token_vault_b")] s &&
  linkOk "whirlpool" "reward_vault" [("address", "whirlpool.reward_infos[reward_index as usize].vault")] s &&
  linkOk "whirlpools_config" "fee_tier" [("has_one", "whirlpools_config")] s &&
  linkOk "whirlpools_config" "adaptive_fee_tier" [("has_one", "whirlpools_config")] s &&
  linkOk "whirlpools_config" "whirlpools_config_extension" [("has_one", "whirlpools_config")] s &&
  linkOk "whirlpools_config" "token_badge" [("has_one", "whirlpools_config")] s &&
  linkOk "whirlpools_config" "whirlpool" [("has_one", "whirlpools_config")] s &&
  linkOk "whirlpool" "oracle" [("has_one", "whirlpool"), ("seeds", "[b\"oracle\", whirlpool.key().as_ref()]")] s &&
  linkOk "position_bundle" "bundled_position"
    [("seeds", "[ b\"bundled_position\".as_ref(), position_bundle.position_bundle_mint.key().as_ref(), bundle_index.to_string().as_bytes() ]")] s &&
  (match findField s "position_bundle", findField s "position_bundle_token_account" with
   | some _, some f =>
     created f || (hasAttr f "constraint" "position_bundle_token_account.mint == position_bundle.position_bundle_mint" &&
                   hasAttr f "constraint" "position_bundle_token_account.amount == 1")
   | _, _ => true)

/-- PDA identity and the remaining pinning attributes (measured by tools/table_mutants.py: these were the
    property-relevant attributes whose deletion no theorem noticed): every `seeds` attribute of every reachable
    struct — the address of a pool, position, tick array, fee tier, oracle, bundle, token badge, config extension
    and lock config IS its identity —, `position_mint = position.position_mint`, the bundle's mint, the lock
    config's and the transfer destination's ties, the fee tier's spacing, the adaptive-tier requirement of the
    delegated setter, and `token program = owner of the mint` for the two-program interface slots.
    (Left out on purpose: payer signatures, `address` attributes that repeat what the `Program<T>` type already
    fixes, the Metaplex update authority, and the three Anchor structs the entrypoint never reaches.) -/
def goldenRows : List (String × String × String × String) := [
  ("InitializeAdaptiveFeeTier", "adaptive_fee_tier", "seeds", "[ b\"fee_tier\", whirlpools_config.key().as_ref(), fee_tier_index.to_le_bytes().as_ref() ]"),
  ("InitializePoolWithAdaptiveFee", "token_badge_a", "seeds", "[b\"token_badge\", whirlpools_config.key().as_ref(), token_mint_a.key().as_ref()]"),
  ("InitializePoolWithAdaptiveFee", "token_badge_b", "seeds", "[b\"token_badge\", whirlpools_config.key().as_ref(), token_mint_b.key().as_ref()]"),
  ("InitializePoolWithAdaptiveFee", "whirlpool", "seeds", "[ b\"whirlpool\".as_ref(), whirlpools_config.key().as_ref(), token_mint_a.key().as_ref(), token_mint_b.key().as_ref(), adaptive_fee_tier.fee_tier_index.to_le_bytes().as_ref() ]"),
  ("InitializePoolWithAdaptiveFee", "oracle", "seeds", "[b\"oracle\", whirlpool.key().as_ref()]"),
  ("InitializePoolWithAdaptiveFee", "token_program_a", "address", "*token_mint_a.to_account_info().owner"),
  ("InitializePoolWithAdaptiveFee", "token_program_b", "address", "*token_mint_b.to_account_info().owner"),
  ("SetFeeRateByDelegatedFeeAuthority", "whirlpool", "constraint", "whirlpool.is_initialized_with_adaptive_fee_tier()"),
  ("CloseBundledPosition", "bundled_position", "seeds", "[ b\"bundled_position\".as_ref(), position_bundle.position_bundle_mint.key().as_ref(), bundle_index.to_string().as_bytes() ]"),
  ("ClosePosition", "position", "seeds", "[b\"position\".as_ref(), position_mint.key().as_ref()]"),
  ("ClosePosition", "position_mint", "address", "position.position_mint"),
  ("ClosePositionWithTokenExtensions", "position", "seeds", "[b\"position\".as_ref(), position_mint.key().as_ref()]"),
  ("ClosePositionWithTokenExtensions", "position_mint", "address", "position.position_mint"),
  ("DeletePositionBundle", "position_bundle_mint", "address", "position_bundle.position_bundle_mint"),
  ("InitializeDynamicTickArray", "tick_array", "seeds", "[b\"tick_array\", whirlpool.key().as_ref(), start_tick_index.to_string().as_bytes()]"),
  ("InitializeFeeTier", "fee_tier", "seeds", "[b\"fee_tier\", config.key().as_ref(), tick_spacing.to_le_bytes().as_ref()]"),
  ("InitializePool", "whirlpool", "seeds", "[ b\"whirlpool\".as_ref(), whirlpools_config.key().as_ref(), token_mint_a.key().as_ref(), token_mint_b.key().as_ref(), tick_spacing.to_le_bytes().as_ref() ]"),
  ("InitializePool", "fee_tier", "constraint", "fee_tier.tick_spacing == tick_spacing"),
  ("InitializePositionBundle", "position_bundle", "seeds", "[b\"position_bundle\".as_ref(), position_bundle_mint.key().as_ref()]"),
  ("InitializePositionBundleWithMetadata", "position_bundle", "seeds", "[b\"position_bundle\".as_ref(), position_bundle_mint.key().as_ref()]"),
  ("InitializeTickArray", "tick_array", "seeds", "[b\"tick_array\", whirlpool.key().as_ref(), start_tick_index.to_string().as_bytes()]"),
  ("LockPosition", "position", "seeds", "[b\"position\".as_ref(), position_mint.key().as_ref()]"),
  ("LockPosition", "position_mint", "address", "position.position_mint"),
  ("LockPosition", "lock_config", "seeds", "[b\"lock_config\".as_ref(), position.key().as_ref()]"),
  ("OpenBundledPosition", "bundled_position", "seeds", "[ b\"bundled_position\".as_ref(), position_bundle.position_bundle_mint.key().as_ref(), bundle_index.to_string().as_bytes() ]"),
  ("OpenPosition", "position", "seeds", "[b\"position\".as_ref(), position_mint.key().as_ref()]"),
  ("OpenPositionWithMetadata", "position", "seeds", "[b\"position\".as_ref(), position_mint.key().as_ref()]"),
  ("OpenPositionWithTokenExtensions", "position", "seeds", "[b\"position\".as_ref(), position_mint.key().as_ref()]"),
  ("Swap", "oracle", "seeds", "[b\"oracle\", whirlpool.key().as_ref()]"),
  ("TransferLockedPosition", "position", "seeds", "[b\"position\".as_ref(), position_mint.key().as_ref()]"),
  ("TransferLockedPosition", "position_mint", "address", "position.position_mint"),
  ("TransferLockedPosition", "destination_token_account", "constraint", "destination_token_account.mint == position.position_mint"),
  ("TransferLockedPosition", "destination_token_account", "constraint", "destination_token_account.key() != position_token_account.key()"),
  ("TransferLockedPosition", "lock_config", "has_one", "position"),
  ("TwoHopSwap", "oracle_one", "seeds", "[b\"oracle\", whirlpool_one.key().as_ref()]"),
  ("TwoHopSwap", "oracle_two", "seeds", "[b\"oracle\", whirlpool_two.key().as_ref()]"),
  ("CollectFeesV2", "token_program_a", "address", "*token_mint_a.to_account_info().owner"),
  ("CollectFeesV2", "token_program_b", "address", "*token_mint_b.to_account_info().owner"),
  ("CollectProtocolFeesV2", "token_program_a", "address", "*token_mint_a.to_account_info().owner"),
  ("CollectProtocolFeesV2", "token_program_b", "address", "*token_mint_b.to_account_info().owner"),
  ("CollectRewardV2", "reward_token_program", "address", "*reward_mint.to_account_info().owner"),
  ("DeleteTokenBadge", "token_badge", "seeds", "[ b\"token_badge\", whirlpools_config.key().as_ref(), token_mint.key().as_ref(), ]"),
  ("InitializeConfigExtension", "config_extension", "seeds", "[ b\"config_extension\", config.key().as_ref(), ]"),
  ("InitializePoolV2", "token_badge_a", "seeds", "[b\"token_badge\", whirlpools_config.key().as_ref(), token_mint_a.key().as_ref()]"),
  ("InitializePoolV2", "token_badge_b", "seeds", "[b\"token_badge\", whirlpools_config.key().as_ref(), token_mint_b.key().as_ref()]"),
  ("InitializePoolV2", "whirlpool", "seeds", "[ b\"whirlpool\".as_ref(), whirlpools_config.key().as_ref(), token_mint_a.key().as_ref(), token_mint_b.key().as_ref(), tick_spacing.to_le_bytes().as_ref() ]"),
  ("InitializePoolV2", "fee_tier", "constraint", "fee_tier.tick_spacing == tick_spacing"),
  ("InitializePoolV2", "token_program_a", "address", "*token_mint_a.to_account_info().owner"),
  ("InitializePoolV2", "token_program_b", "address", "*token_mint_b.to_account_info().owner"),
  ("InitializeRewardV2", "reward_token_badge", "seeds", "[b\"token_badge\", whirlpool.whirlpools_config.as_ref(), reward_mint.key().as_ref()]"),
  ("InitializeRewardV2", "reward_token_program", "address", "*reward_mint.to_account_info().owner"),
  ("InitializeTokenBadge", "token_badge", "seeds", "[ b\"token_badge\", whirlpools_config.key().as_ref(), token_mint.key().as_ref(), ]"),
  ("SwapV2", "token_program_a", "address", "*token_mint_a.to_account_info().owner"),
  ("SwapV2", "token_program_b", "address", "*token_mint_b.to_account_info().owner"),
  ("SwapV2", "oracle", "seeds", "[b\"oracle\", whirlpool.key().as_ref()]"),
  ("TwoHopSwapV2", "token_program_input", "address", "*token_mint_input.to_account_info().owner"),
  ("TwoHopSwapV2", "token_program_intermediate", "address", "*token_mint_intermediate.to_account_info().owner"),
  ("TwoHopSwapV2", "token_program_output", "address", "*token_mint_output.to_account_info().owner"),
  ("TwoHopSwapV2", "oracle_one", "seeds", "[b\"oracle\", whirlpool_one.key().as_ref()]"),
  ("TwoHopSwapV2", "oracle_two", "seeds", "[b\"oracle\", whirlpool_two.key().as_ref()]")]

def goldenOk (r : String × String × String × String) : Bool :=
  match findSpec anchorSpecs r.1 with
  | none => false
  | some s => match findField s r.2.1 with
    | none => false
    | some f => hasAttr f r.2.2.1 r.2.2.2

/-! ### the regenerated tables meet the requirements

One kernel evaluation per regenerated table: the theorems over the same table compare the same struct, field and
file names and the same attribute texts, and comparing two string literals is the whole cost. -/

theorem anchor_tables_ok :
    pinRows.all pinOk = true ∧ slotRows.all slotOk = true ∧ fundMoving.all slotsComplete = true ∧
    goldenRows.all goldenOk = true ∧ anchorSpecs.all backRefsOk = true ∧
    anchorSpecs.all positionLinkOk = true ∧ anchorSpecs.all positionTokenLinkOk = true := by
  decide +kernel

theorem guard_tables_ok : loaderRows.all loaderOk = true ∧ twoHopRows.all twoHopOk = true := by decide +kernel

theorem pino_tables_ok : pinoPinRows.all pinoPinOk = true ∧ pinoLabelsOk = true := by decide +kernel

/-- C15(T1): every pinning attribute required is present in the code. -/
theorem pin_rows_met : pinRows.all pinOk = true := let ⟨h, _⟩ := anchor_tables_ok; h
/-- C15(T2): every slot is of the stated category … -/
theorem slot_rows_met : slotRows.all slotOk = true := let ⟨_, h, _⟩ := anchor_tables_ok; h
/-- C15(T3): … and there is no slot outside the table. -/
theorem slots_complete : fundMoving.all slotsComplete = true := let ⟨_, _, h, _⟩ := anchor_tables_ok; h
theorem golden_rows_met : goldenRows.all goldenOk = true := let ⟨_, _, _, h, _⟩ := anchor_tables_ok; h

theorem back_references_everywhere : anchorSpecs.all backRefsOk = true := let ⟨_, _, _, _, h, _⟩ := anchor_tables_ok; h

-- non-vacuity: how many structs each rule speaks about
example : ((anchorSpecs.filter fun s => (findField s "whirlpool").isSome && (findField s "token_vault_a").isSome).length,
           (anchorSpecs.filter fun s => (findField s "whirlpool").isSome && (findField s "reward_vault").isSome).length,
           (anchorSpecs.filter fun s => (findField s "whirlpools_config").isSome && (findField s "whirlpool").isSome).length,
           (anchorSpecs.filter fun s => (findField s "whirlpool").isSome && (findField s "oracle").isSome).length,
           (anchorSpecs.filter fun s => (findField s "position_bundle").isSome && (findField s "position_bundle_token_account").isSome).length)
    = (12, 6, 9, 4, 5) := by decide +kernel

theorem position_links_everywhere : anchorSpecs.all positionLinkOk = true := let ⟨_, _, _, _, _, h, _⟩ := anchor_tables_ok; h
theorem position_token_links_everywhere : anchorSpecs.all positionTokenLinkOk = true := let ⟨_, _, _, _, _, _, h⟩ := anchor_tables_ok; h

-- the rule is not vacuous: thirteen structs carry both slots (ten existing positions, three creations)
example : (anchorSpecs.filter fun s => (findField s "position").isSome && (findField s "whirlpool").isSome).length = 13 := by
  decide +kernel

/-- C15(T4): the handlers load the tick arrays / oracle through the validating loaders. -/
theorem loader_rows_met : loaderRows.all loaderOk = true := guard_tables_ok.1
/-- C15(T5): two-hop swaps reject identical pools, a mismatching intermediate mint and differing
    intermediate amounts before any state change. -/
theorem two_hop_rows_met : twoHopRows.all twoHopOk = true := guard_tables_ok.2
/-- C15(T6): the Pinocchio handlers pin position, position token account, mints, vaults, token
    programs and load the tick arrays against the pool key. -/
theorem pino_pin_rows_met : pinoPinRows.all pinoPinOk = true := pino_tables_ok.1
theorem pino_labels_met : pinoLabelsOk = true := pino_tables_ok.2

theorem pin_enforced (r : String × String × String × String) (hr : pinOk r = true) (env : Env) :
    ∃ s e, findSpec anchorSpecs r.1 = some s ∧ (accepts s env → holdsAttr env r.2.1 (r.2.2.1, r.2.2.2, e)) :=
  hasAttr_enforced _ _ _ _ _ hr env

theorem swap_vault_a_pinned (env : Env) :
    ∃ s, findSpec anchorSpecs "SwapV2" = some s ∧
      (accepts s env → env.key "token_vault_a" = env.evalKey "whirlpool.token_vault_a") := by
  -- the row is `pinRows[95]`; naming its place avoids comparing it with the rows before it
  have hr : pinOk ("SwapV2", "token_vault_a", "address", "whirlpool.token_vault_a") = true :=
    List.all_eq_true.mp pin_rows_met _ (List.getElem_mem (l := pinRows) (n := 95) (by decide))
  obtain ⟨s, e, hs, h⟩ := pin_enforced _ hr env
  exact ⟨s, hs, fun hacc => (holdsAttr_address env _ _ e).mp (h hacc)⟩

end WP.C15
