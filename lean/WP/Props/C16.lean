import WP.Model.TransferFee
import WP.Props.C03
import WP.Lemmas.Except
/-
  Property C16 — with transfer-fee tokens the pool still receives and pays the curve amounts.

  Model: WP/Model/TransferFee.lean (spl-token-2022 fee arithmetic, the program's excluded / included
  wrappers, the v2 swap handler's use of them).  Proved here for every fee configuration
  (0 ..= 10000 bp, any maximum fee) and every u64 amount:
   * removing the fee from an amount and the fee itself add back to that amount (excluded_add);
   * the amount requested for a pool need x is the SMALLEST y whose fee-reduced value y − fee(y)
     reaches x and its fee-reduced value is exactly x (included_least); for 0 < bps < 10000 the
     computation fails only when that amount does not fit u64 — in particular the handler's
     "verification" never fires (included_fails_only_on_overflow);
   * with a 100% fee the maximum fee is charged (fee_full);
   * v2 swap: the input vault receives exactly the curve input, the trader pays no more than the
     specified amount (exact-in) and the thresholds are applied to what the trader actually receives /
     pays (swapV2_exact_in, swapV2_exact_out).
  Tied to the code by running the REAL swap instructions (v1 and v2) through the program's entrypoint
  with the REAL spl-token / Token-2022 processors executing the transfers (history family, op xswap):
  balances, withheld fees, pool state and the Traded event are compared with this model.
-/
namespace WP.C16
open WP WP.Gen

/-- ⌈B/n⌉ + ⌊A/n⌋ = y when A + B = n·y -/
theorem ceil_add_floor (y A B n : Nat) (hn : 0 < n) (e : B + A = n * y) : y - ceilDivN B n = A / n := by
  unfold ceilDivN
  have hA : A = n * y - B := Nat.eq_sub_of_add_eq' e
  cases B with
  | zero =>
    rw [hA, Nat.zero_add, Nat.sub_zero, Nat.mul_div_cancel_left _ hn, Nat.div_eq_of_lt (Nat.sub_lt hn Nat.one_pos),
      Nat.sub_zero]
  | succ x =>
    have hx : x < n * y := Nat.lt_of_lt_of_le (Nat.lt_succ_self x) (e ▸ Nat.le_add_right _ _)
    rw [hA, Nat.mul_sub_div x n y hx, Nat.add_right_comm, Nat.add_sub_cancel, Nat.add_div_right _ hn]

theorem ceilDivN_le_iff (a d n : Nat) (hd : 0 < d) : ceilDivN a d ≤ n ↔ a ≤ n * d := by
  unfold ceilDivN
  rw [Nat.div_le_iff_le_mul_add_pred hd, Nat.add_sub_assoc hd, Nat.add_le_add_iff_right, Nat.mul_comm]

theorem sub_ceil (y b : Nat) (hb : b ≤ 10000) : y - ceilDivN (y * b) 10000 = y * (10000 - b) / 10000 :=
  ceil_add_floor y _ _ 10000 (by decide) (by rw [← Nat.mul_add, Nat.add_sub_cancel' hb, Nat.mul_comm])

theorem ceil_le (y b : Nat) (hb : b ≤ 10000) : ceilDivN (y * b) 10000 ≤ y :=
  (ceilDivN_le_iff _ _ _ (by decide)).mpr (Nat.mul_le_mul_left y hb)

theorem sub_min (y c m : Nat) : y - min c m = max (y - c) (y - m) := by
  rcases Nat.le_total c m with h | h
  · rw [Nat.min_eq_left h, Nat.max_eq_left (Nat.sub_le_sub_left h y)]
  · rw [Nat.min_eq_right h, Nat.max_eq_right (Nat.sub_le_sub_left h y)]

theorem fee_le (f : TFee) (y : Nat) (hb : f.bps ≤ 10000) : f.fee y ≤ y := by
  unfold TFee.fee
  split
  · omega
  · exact Nat.le_trans (Nat.min_le_left _ _) (ceil_le y f.bps hb)

/-- **removing the fee and the fee add back to the amount** -/
theorem excluded_add (f : Option TFee) (x : Nat) (hb : ∀ t, f = some t → t.bps ≤ 10000) :
    (excludedAmount f x).1 + (excludedAmount f x).2 = x := by
  cases f with
  | none => rfl
  | some t =>
    have := fee_le t x (hb t rfl)
    simp only [excludedAmount]; omega

theorem fee_pos (f : TFee) (y : Nat) (h0 : 0 < f.bps) (hy : 0 < y) :
    f.fee y = min (ceilDivN (y * f.bps) 10000) f.maxFee := by
  unfold TFee.fee
  have hc : ¬ (decide (f.bps = 0) || decide (y = 0)) = true := by
    rw [Bool.or_eq_true, decide_eq_true_eq, decide_eq_true_eq]
    exact fun h => h.elim (Nat.ne_of_gt h0) (Nat.ne_of_gt hy)
  rw [if_neg hc]

theorem net_eq (f : TFee) (y : Nat) (h0 : 0 < f.bps) (h1 : f.bps < 10000) (hy : 0 < y) :
    y - f.fee y = max (y * (10000 - f.bps) / 10000) (y - f.maxFee) := by
  rw [fee_pos f y h0 hy, sub_min, sub_ceil y f.bps (Nat.le_of_lt h1)]

theorem net_ge_iff (f : TFee) (x y : Nat) (h0 : 0 < f.bps) (h1 : f.bps < 10000) (hy : 0 < y) :
    y - f.fee y ≥ x ↔ (y ≥ ceilDivN (x * 10000) (10000 - f.bps) ∨ y ≥ x + f.maxFee) := by
  have key : y * (10000 - f.bps) / 10000 ≥ x ↔ y ≥ ceilDivN (x * 10000) (10000 - f.bps) := by
    rw [ge_iff_le, ge_iff_le, Nat.le_div_iff_mul_le (by decide), ceilDivN_le_iff _ _ _ (Nat.sub_pos_of_lt h1)]
  rw [net_eq f y h0 h1 hy, ← key, ge_iff_le, Std.le_max]
  constructor
  · rintro (h | h)
    · exact Or.inl h
    · -- `y - maxFee ≥ x` says `y ≥ x + maxFee` unless x = 0, which the other side covers
      rcases Nat.eq_zero_or_pos x with rfl | hx
      · exact Or.inl (Nat.zero_le _)
      · exact Or.inr (Nat.add_le_of_le_sub (Nat.le_of_lt (Nat.lt_of_sub_pos (Nat.lt_of_lt_of_le hx h))) h)
  · rintro (h | h)
    · exact Or.inl h
    · exact Or.inr (Nat.le_sub_of_add_le h)

/-- `calculate_pre_fee_amount` is the least y with y − fee(y) ≥ x (before the u64 check) -/
def leastPre (f : TFee) (x : Nat) : Nat :=
  let raw := ceilDivN (x * 10000) (10000 - f.bps)
  if raw - x ≥ f.maxFee then x + f.maxFee else raw

theorem raw_ge (x D : Nat) (hD : 0 < D) (hDN : D ≤ 10000) : ceilDivN (x * 10000) D ≥ x :=
  Nat.le_of_mul_le_mul_right
    (Nat.le_trans ((ceilDivN_le_iff _ D _ hD).mp (Nat.le_refl _)) (Nat.mul_le_mul_left _ hDN)) (by decide)

/-- the smaller of the two amounts `net_ge_iff` names -/
theorem leastPre_eq_min (f : TFee) (x : Nat) (h1 : f.bps < 10000) :
    leastPre f x = min (x + f.maxFee) (ceilDivN (x * 10000) (10000 - f.bps)) := by
  have hr := raw_ge x (10000 - f.bps) (Nat.sub_pos_of_lt h1) (Nat.sub_le _ _)
  unfold leastPre
  simp only []
  by_cases h : ceilDivN (x * 10000) (10000 - f.bps) - x ≥ f.maxFee
  · rw [if_pos h, Nat.min_eq_left (Nat.add_comm x _ ▸ Nat.add_le_of_le_sub hr h)]
  · rw [if_neg h, Nat.min_eq_right (Nat.le_of_lt (Nat.add_comm x _ ▸ (Nat.sub_lt_iff_lt_add hr).mp (Nat.lt_of_not_le h)))]

theorem leastPre_spec (f : TFee) (x : Nat) (h0 : 0 < f.bps) (h1 : f.bps < 10000) (hx : 0 < x) :
    leastPre f x - f.fee (leastPre f x) ≥ x ∧ ∀ y, y < leastPre f x → y - f.fee y < x := by
  have hr := raw_ge x (10000 - f.bps) (Nat.sub_pos_of_lt h1) (Nat.sub_le _ _)
  rw [leastPre_eq_min f x h1]
  constructor
  · refine (net_ge_iff f x _ h0 h1 (Nat.lt_min.mpr ⟨Nat.lt_of_lt_of_le hx (Nat.le_add_right _ _), Nat.lt_of_lt_of_le hx hr⟩)).mpr ?_
    rcases Nat.le_total (x + f.maxFee) (ceilDivN (x * 10000) (10000 - f.bps)) with h | h
    · exact Or.inr (Nat.le_of_eq (Nat.min_eq_left h).symm)
    · exact Or.inl (Nat.le_of_eq (Nat.min_eq_right h).symm)
  · intro y hy
    obtain ⟨hy1, hy2⟩ := Nat.lt_min.mp hy
    rcases Nat.eq_zero_or_pos y with rfl | hy0
    · exact Nat.lt_of_le_of_lt (Nat.sub_le _ _) hx
    · exact Nat.lt_of_not_le fun h => ((net_ge_iff f x y h0 h1 hy0).mp h).elim (Nat.not_le_of_lt hy2) (Nat.not_le_of_lt hy1)

theorem net_step (f : TFee) (y : Nat) (h0 : 0 < f.bps) (h1 : f.bps < 10000) (hy : 0 < y) :
    (y + 1) - f.fee (y + 1) ≤ (y - f.fee y) + 1 := by
  rw [net_eq f (y + 1) h0 h1 (Nat.succ_pos y), net_eq f y h0 h1 hy]
  refine Nat.max_le.mpr ⟨?_, ?_⟩
  · calc (y + 1) * (10000 - f.bps) / 10000
        ≤ (y * (10000 - f.bps) + 10000) / 10000 :=
          Nat.div_le_div_right (by rw [Nat.succ_mul]; exact Nat.add_le_add_left (Nat.sub_le _ _) _)
      _ = y * (10000 - f.bps) / 10000 + 1 := Nat.add_div_right _ (by decide)
      _ ≤ _ := Nat.add_le_add_right (Nat.le_max_left _ _) 1
  · calc y + 1 - f.maxFee ≤ (y - f.maxFee) + 1 :=
          Nat.sub_le_iff_le_add.mpr (Nat.add_right_comm _ _ _ ▸ Nat.succ_le_succ (Nat.sub_le_iff_le_add.mp (Nat.le_refl _)))
      _ ≤ _ := Nat.add_le_add_right (Nat.le_max_right _ _) 1

theorem leastPre_exact (f : TFee) (x : Nat) (h0 : 0 < f.bps) (h1 : f.bps < 10000) (hx : 0 < x) :
    leastPre f x - f.fee (leastPre f x) = x := by
  obtain ⟨hge, hlt⟩ := leastPre_spec f x h0 h1 hx
  refine Nat.le_antisymm ?_ hge
  have hpos : 0 < leastPre f x := Nat.lt_of_lt_of_le hx (Nat.le_trans hge (Nat.sub_le _ _))
  -- the predecessor's net value is below x, and one step adds at most one
  obtain ⟨k, hk⟩ := Nat.exists_eq_succ_of_ne_zero (Nat.ne_of_gt hpos)
  rw [hk] at hlt ⊢
  rcases Nat.eq_zero_or_pos k with rfl | hk0
  · exact Nat.le_trans (Nat.sub_le _ _) hx
  · exact Nat.le_trans (net_step f k h0 h1 hk0) (hlt k (Nat.lt_succ_self k))

/-- `calculate_pre_fee_amount` is `leastPre` with the u64 check -/
theorem preFee_eq (f : TFee) (x : Nat) (h0 : 0 < f.bps) (h1 : f.bps < 10000) (hx : 0 < x) :
    f.preFee x = if leastPre f x ≤ U64_MAX then some (leastPre f x) else none := by
  unfold TFee.preFee leastPre
  rw [if_neg (Nat.ne_of_gt h0), if_neg (Nat.ne_of_gt hx), if_neg (Nat.ne_of_lt h1)]
  simp only []
  by_cases hm : ceilDivN (x * 10000) (10000 - f.bps) - x ≥ f.maxFee
  · rw [if_pos hm, if_pos hm]
  · rw [if_neg hm, if_neg hm]

/-- what the program asks the user for: the least amount whose net value reaches x -/
def Least (f : TFee) (x y : Nat) : Prop := y - f.fee y ≥ x ∧ ∀ y', y' < y → y' - f.fee y' < x

theorem fee_full (f : TFee) (y : Nat) (h : f.bps = 10000) (hy : 0 < y) : f.fee y = min y f.maxFee := by
  rw [fee_pos f y (h ▸ by decide) hy, h,
    Nat.le_antisymm ((ceilDivN_le_iff _ _ _ (by decide)).mpr (Nat.le_refl _)) (raw_ge y 10000 (by decide) (Nat.le_refl _))]

theorem fee_zero (f : TFee) (y : Nat) (h : f.bps = 0) : f.fee y = 0 := by
  unfold TFee.fee; simp [h]

/-- `calculate_transfer_fee_included_amount` on x > 0 succeeds exactly when the fee it adds (the maximum fee at 100 %,
    else `calculate_inverse_fee`) is the fee of the sum and the sum fits u64 -/
theorem included_ok (f : TFee) (x y fee : Nat) (hx : 0 < x) :
    includedAmount (some f) x = .ok (y, fee) ↔
    (if f.bps = 10000 then some f.maxFee else f.inverseFee x) = some fee ∧ y = x + fee ∧ y ≤ U64_MAX ∧
      f.fee y = fee := by
  unfold includedAmount
  rw [if_neg (Nat.ne_of_gt hx)]
  simp only []
  cases (if f.bps = 10000 then some f.maxFee else f.inverseFee x) with
  | none => exact ⟨fun h => (nomatch h), fun h => (nomatch h.1)⟩
  | some fee' =>
    simp only [err_ite_ok, Nat.not_lt, Decidable.not_not, Except.ok.injEq, Prod.mk.injEq, Option.some.injEq]
    constructor
    · rintro ⟨hfit, hv, rfl, rfl⟩; exact ⟨rfl, rfl, hfit, hv⟩
    · rintro ⟨rfl, rfl, hfit, hv⟩; exact ⟨hfit, hv, rfl, rfl⟩

/-- **the included amount**: whenever `calculate_transfer_fee_included_amount` succeeds on x > 0 it
    returns the LEAST y with y − fee(y) ≥ x, that y satisfies y − fee(y) = x exactly, and the
    returned fee is fee(y) -/
theorem included_least (f : TFee) (x y fee : Nat) (hb : f.bps ≤ 10000) (hx : 0 < x)
    (h : includedAmount (some f) x = .ok (y, fee)) :
    Least f x y ∧ y - f.fee y = x ∧ fee = f.fee y ∧ y ≤ U64_MAX := by
  obtain ⟨hfee, rfl, hfit, hv⟩ := (included_ok f x y fee hx).mp h
  have hnet : (x + fee) - f.fee (x + fee) = x := by rw [hv, Nat.add_sub_cancel]
  refine ⟨⟨Nat.le_of_eq hnet.symm, fun y' hy' => ?_⟩, hnet, hv.symm, hfit⟩
  -- no smaller amount reaches x
  by_cases h100 : f.bps = 10000
  · -- 100%: the fee is the maximum fee, the net value y' − min y' maxFee
    rw [if_pos h100] at hfee
    cases hfee
    rcases Nat.eq_zero_or_pos y' with rfl | hp
    · exact Nat.lt_of_le_of_lt (Nat.sub_le _ _) hx
    · rw [fee_full f y' h100 hp, sub_min, Nat.sub_self, Nat.max_eq_right (Nat.zero_le _)]
      rcases Nat.lt_or_ge y' f.maxFee with hlt | hge
      · rw [Nat.sub_eq_zero_of_le (Nat.le_of_lt hlt)]; exact hx
      · exact (Nat.sub_lt_iff_lt_add hge).mpr hy'
  · rw [if_neg h100] at hfee
    unfold TFee.inverseFee at hfee
    by_cases h0 : f.bps = 0
    · -- no fee
      rw [fee_zero f _ h0] at hv ⊢
      rw [← hv] at hy'
      exact hy'
    · have hb0 : 0 < f.bps := Nat.pos_of_ne_zero h0
      have hb1 : f.bps < 10000 := Nat.lt_of_le_of_ne hb h100
      rw [preFee_eq f x hb0 hb1 hx] at hfee
      by_cases hL : leastPre f x ≤ U64_MAX
      · rw [if_pos hL] at hfee
        cases hfee
        -- the amount returned is `leastPre`
        have hsum := Nat.sub_add_cancel (fee_le f (leastPre f x) hb)
        rw [leastPre_exact f x hb0 hb1 hx] at hsum
        rw [hsum] at hy'
        exact (leastPre_spec f x hb0 hb1 hx).2 y' hy'
      · rw [if_neg hL] at hfee; cases hfee

/-- … and it fails only when that least amount does not fit in u64 (the handler's "verification"
    of the fee never fires) -/
theorem included_fails_only_on_overflow (f : TFee) (x : Nat) (h0 : 0 < f.bps) (h1 : f.bps < 10000) (hx : 0 < x)
    (hfit : leastPre f x ≤ U64_MAX) : ∃ fee, includedAmount (some f) x = .ok (leastPre f x, fee) := by
  have hsum := Nat.sub_add_cancel (fee_le f (leastPre f x) (Nat.le_of_lt h1))
  rw [leastPre_exact f x h0 h1 hx] at hsum
  refine ⟨f.fee (leastPre f x), (included_ok f x _ _ hx).mpr ⟨?_, hsum.symm, hfit, rfl⟩⟩
  rw [if_neg (Nat.ne_of_lt h1)]
  unfold TFee.inverseFee
  rw [preFee_eq f x h0 h1 hx, if_pos hfit]


/-! ### the v2 swap handler -/

theorem excluded_fst (f : Option TFee) (z : Nat) : (excludedAmount f z).1 = z - (excludedAmount f z).2 := by
  cases f <;> rfl

def feeOK (f : Option TFee) : Prop := ∀ t, f = some t → t.bps ≤ 10000

theorem included_net (f : Option TFee) (x y fee : Nat) (hf : feeOK f) (h : includedAmount f x = .ok (y, fee)) :
    y - (excludedAmount f y).2 = x ∧ (∀ z, z - (excludedAmount f z).2 ≥ x → y ≤ z) := by
  rcases Nat.eq_zero_or_pos x with rfl | hx
  · unfold includedAmount at h
    rw [if_pos rfl] at h
    cases h
    exact ⟨Nat.zero_sub _, fun z _ => Nat.zero_le _⟩
  · cases f with
    | none =>
      unfold includedAmount at h
      rw [if_neg (Nat.ne_of_gt hx)] at h
      cases h
      exact ⟨rfl, fun z hz => hz⟩
    | some t =>
      obtain ⟨hl, hex, _, _⟩ := included_least t x y fee (hf t rfl) hx h
      exact ⟨hex, fun z hz => Nat.le_of_not_lt fun hzy => Nat.not_le_of_lt (hl.2 z hzy) hz⟩

/-- the exact-in adjustment of what the trader pays: the specified amount when the swap consumed all of its
    fee-reduced value, else the least amount that nets what was consumed -/
theorem adjusted_in (f : Option TFee) (amount swIn : Nat) (adj : Nat × Nat) (hf : feeOK f)
    (hle : swIn ≤ (excludedAmount f amount).1)
    (h : (if swIn = (excludedAmount f amount).1 then (.ok (amount, 0) : R (Nat × Nat)) else includedAmount f swIn) = .ok adj) :
    adj.1 ≤ amount ∧ adj.1 - (excludedAmount f adj.1).2 = swIn := by
  by_cases hfull : swIn = (excludedAmount f amount).1
  · rw [if_pos hfull] at h
    cases h
    exact ⟨Nat.le_refl _, hfull ▸ (excluded_fst _ _).symm⟩
  · rw [if_neg hfull] at h
    obtain ⟨hnet, hmin⟩ := included_net f swIn adj.1 adj.2 hf h
    exact ⟨hmin amount (excluded_fst f amount ▸ hle), hnet⟩

/-- **exact-in**: what the trader receives is the curve output minus its fee and is at least the
    threshold; the trader pays at most the specified amount; the input vault receives EXACTLY the
    curve input (the fee-reduced value of what the trader pays) -/
theorem swapV2_exact_in (p : PoolD) (ticks : TickMap) (arrays : List Int) (amount thr limit : Nat) (aToB : Bool) (now : Nat)
    (af : Option AfInfo) (fIn fOut : Option TFee) (fuel : Nat) (r : XSwapResult) (hIn : feeOK fIn)
    (h : swapV2 p ticks arrays amount thr limit true aToB now af fIn fOut fuel = .ok r) :
    r.userOut ≥ thr ∧ r.userOut = r.poolOut - (excludedAmount fOut r.poolOut).2 ∧
    r.userIn ≤ amount ∧ r.userIn - (excludedAmount fIn r.userIn).2 = r.poolIn := by
  unfold swapV2 at h
  rw [if_pos rfl] at h
  simp only [] at h
  cases hs : swap p ticks arrays (excludedAmount fIn amount).1 limit true aToB now af fuel with
  | error e => rw [hs] at h; cases h
  | ok u =>
    rw [hs] at h
    simp only [] at h
    -- the swap consumes at most what it was given (C03)
    have hswIn : (if aToB = true then u.amountA else u.amountB) ≤ (excludedAmount fIn amount).1 := by
      have hle := C03.swap_specified_le _ _ _ _ _ _ _ _ _ _ _ hs
      unfold C03.specifiedUsed at hle
      cases aToB <;> exact hle
    generalize (if aToB = true then u.amountA else u.amountB) = swIn at *
    generalize (if aToB = true then u.amountB else u.amountA) = swOut at *
    cases hadj : (if swIn = (excludedAmount fIn amount).1 then (.ok (amount, 0) : R (Nat × Nat)) else includedAmount fIn swIn) with
    | error e => rw [hadj] at h; cases h
    | ok adj =>
      rw [hadj] at h
      obtain ⟨hthr, h⟩ := ok_of_ite h
      cases h
      exact ⟨Nat.le_of_not_lt hthr, excluded_fst _ _, adjusted_in fIn amount swIn adj hIn hswIn hadj⟩

/-- **exact-out**: the output vault pays the curve output; what the trader pays is the least amount
    whose fee-reduced value is the curve input, and it is at most the threshold -/
theorem swapV2_exact_out (p : PoolD) (ticks : TickMap) (arrays : List Int) (amount thr limit : Nat) (aToB : Bool) (now : Nat)
    (af : Option AfInfo) (fIn fOut : Option TFee) (fuel : Nat) (r : XSwapResult) (hIn : feeOK fIn)
    (h : swapV2 p ticks arrays amount thr limit false aToB now af fIn fOut fuel = .ok r) :
    r.userIn ≤ thr ∧ r.userIn - (excludedAmount fIn r.userIn).2 = r.poolIn ∧
    (∀ z, z - (excludedAmount fIn z).2 ≥ r.poolIn → r.userIn ≤ z) ∧
    r.userOut = r.poolOut - (excludedAmount fOut r.poolOut).2 := by
  unfold swapV2 at h
  rw [if_neg Bool.false_ne_true] at h
  cases hi : includedAmount fOut amount with
  | error e => rw [hi] at h; cases h
  | ok incOut =>
    rw [hi] at h
    simp only [] at h
    cases hs : swap p ticks arrays incOut.1 limit false aToB now af fuel with
    | error e => rw [hs] at h; cases h
    | ok u =>
      rw [hs] at h
      simp only [] at h
      cases hi2 : includedAmount fIn (if aToB = true then u.amountA else u.amountB) with
      | error e => rw [hi2] at h; cases h
      | ok incIn =>
        rw [hi2] at h
        obtain ⟨hthr, h⟩ := ok_of_ite h
        cases h
        obtain ⟨hnet, hmin⟩ := included_net fIn _ incIn.1 incIn.2 hIn hi2
        exact ⟨Nat.le_of_not_lt hthr, hnet, hmin, excluded_fst _ _⟩

end WP.C16
