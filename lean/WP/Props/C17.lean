import WP.Model.TransferFee
import WP.Lemmas.Except
/-
  Property C17 — a two-hop swap equals its two single swaps with a matching intermediate amount.

  Model: `twoHop` (WP/Model/TransferFee.lean) — the orchestration of instructions/two_hop_swap.rs and
  instructions/v2/two_hop_swap.rs over the SAME `swapV2` / `swap` functions the single-swap
  instructions use.  Proved: a two-hop succeeds EXACTLY when
    (exact-in)  leg one succeeds as a single exact-in swap of `amount`, leg two succeeds as a single
                exact-in swap whose input is leg one's output, leg two consumes all of it, and the final
                output is at least the threshold;
    (exact-out) leg two succeeds as a single exact-out swap of `amount`, leg one succeeds as a single
                exact-out swap for leg two's (fee-excluded) input, the amounts match, and the initial
                input is at most the threshold;
  and then the two pools end in exactly the states of those two single swaps, the trader pays leg one's
  input and receives leg two's output, and what leaves pool one is what enters pool two
  (two_hop_exact_in_iff, two_hop_exact_out_iff, two_hop_fails_if_leg_fails).
  Tied to the code by executing the REAL two_hop_swap / two_hop_swap_v2 instructions and, on a copy of
  the same accounts, the two REAL single-swap instructions, and comparing every program-owned account
  and every balance (history family, op xhop); DuplicateTwoHopPool / InvalidIntermediaryMint are
  account-level guards in the regenerated C04/C15 tables.
-/
namespace WP.C17
open WP WP.Gen

theorem two_hop_exact_in_iff (p1 : PoolD) (t1 : TickMap) (af1 : Option AfInfo) (arr1 : List Int)
    (p2 : PoolD) (t2 : TickMap) (af2 : Option AfInfo) (arr2 : List Int)
    (amount threshold : Nat) (d1 d2 : Bool) (lim1 lim2 now : Nat) (fIn fMid fOut : Option TFee) (fuel : Nat)
    (r1 r2 : XSwapResult) :
    twoHop p1 t1 af1 arr1 p2 t2 af2 arr2 amount threshold true d1 d2 lim1 lim2 now fIn fMid fOut fuel = .ok (r1, r2) ↔
    (swapV2 p1 t1 arr1 amount 0 lim1 true d1 now af1 fIn fMid fuel = .ok r1 ∧
     swapV2 p2 t2 arr2 r1.poolOut 0 lim2 true d2 now af2 fMid fOut fuel = .ok r2 ∧
     r1.poolOut = r2.userIn ∧ r2.userOut ≥ threshold) := by
  rw [twoHop, if_pos rfl]
  constructor
  · intro h
    split at h
    · cases h
    rename_i a h1
    split at h
    · cases h
    rename_i b h2
    simp only [err_ite_ok, ne_eq, Decidable.not_not, Nat.not_lt, Except.ok.injEq, Prod.mk.injEq] at h
    obtain ⟨hm, ht, rfl, rfl⟩ := h
    exact ⟨h1, h2, hm, ht⟩
  · rintro ⟨h1, h2, hm, ht⟩
    simp only [h1, h2, if_neg (not_not_intro hm), if_neg (Nat.not_lt.mpr ht)]

theorem two_hop_exact_out_iff (p1 : PoolD) (t1 : TickMap) (af1 : Option AfInfo) (arr1 : List Int)
    (p2 : PoolD) (t2 : TickMap) (af2 : Option AfInfo) (arr2 : List Int)
    (amount threshold : Nat) (d1 d2 : Bool) (lim1 lim2 now : Nat) (fIn fMid fOut : Option TFee) (fuel : Nat)
    (r1 r2 : XSwapResult) :
    twoHop p1 t1 af1 arr1 p2 t2 af2 arr2 amount threshold false d1 d2 lim1 lim2 now fIn fMid fOut fuel = .ok (r1, r2) ↔
    (swapV2 p2 t2 arr2 amount U64_MAX lim2 false d2 now af2 fMid fOut fuel = .ok r2 ∧
     swapV2 p1 t1 arr1 (excludedAmount fMid r2.userIn).1 U64_MAX lim1 false d1 now af1 fIn fMid fuel = .ok r1 ∧
     r1.poolOut = r2.userIn ∧ r1.userIn ≤ threshold) := by
  rw [twoHop, if_neg Bool.false_ne_true]
  constructor
  · intro h
    split at h
    · cases h
    rename_i b h2
    split at h
    · cases h
    rename_i a h1
    simp only [err_ite_ok, ne_eq, Decidable.not_not, Nat.not_lt, Except.ok.injEq, Prod.mk.injEq] at h
    obtain ⟨hm, ht, rfl, rfl⟩ := h
    exact ⟨h2, h1, hm, ht⟩
  · rintro ⟨h2, h1, hm, ht⟩
    simp only [h2, h1, if_neg (not_not_intro hm), if_neg (Nat.not_lt.mpr ht)]

theorem two_hop_fails_if_leg_fails (p1 : PoolD) (t1 : TickMap) (af1 : Option AfInfo) (arr1 : List Int)
    (p2 : PoolD) (t2 : TickMap) (af2 : Option AfInfo) (arr2 : List Int)
    (amount threshold : Nat) (d1 d2 : Bool) (lim1 lim2 now : Nat) (fIn fMid fOut : Option TFee) (fuel : Nat) (e : Err)
    (h : swapV2 p1 t1 arr1 amount 0 lim1 true d1 now af1 fIn fMid fuel = .error e) :
    twoHop p1 t1 af1 arr1 p2 t2 af2 arr2 amount threshold true d1 d2 lim1 lim2 now fIn fMid fOut fuel = .error e := by
  rw [twoHop, if_pos rfl, h]

end WP.C17
