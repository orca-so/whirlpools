import WP.Model.Position
import WP.Gen.AnchorSpecs
import WP.Gen.PinoSpecs
import WP.Props.C09
import WP.Lemmas.Except
import Mathlib.Tactic.Ring
/-
  Property C18 — positions are opened, closed, re-ranged, locked and bundled only consistently.

  Computational parts are modelled (WP/Model/Position.lean) and tied to both implementations by the
  families `reset`, `snap`, `bundle`; handler guards are regenerated from the source (T) and checked
  against the requirement rows below.  NOT covered: "creates exactly one position token with no
  remaining mint authority" is an effect of token-program CPIs, outside the model (family `xopen` executes them).
-/
namespace WP.C18
open WP WP.Gen

/-! ### range validation -/

/-- C18(a): a range is accepted exactly when both bounds are usable ticks, lower < upper, and — on
    full-range-only pools (tick spacing ≥ 2^15) — it is the full range. -/
theorem validate_range_spec (ts : Nat) (lo hi : Int) :
    validateTickRange ts lo hi = .ok () ↔
      (isUsableTick lo ts = true ∧ isUsableTick hi ts = true ∧ lo < hi ∧
       (ts ≥ FULL_RANGE_ONLY_TICK_SPACING_THRESHOLD → lo = (fullRangeIndexes ts).1 ∧ hi = (fullRangeIndexes ts).2)) := by
  simp only [validateTickRange, err_ite_ok, Bool.or_eq_true, Bool.and_eq_true, Bool.not_eq_true', decide_eq_true_eq,
    not_or, not_and, Bool.not_eq_false, ge_iff_le, Int.not_le, ne_eq, Decidable.not_not, and_true, and_assoc]

/-- C18(b): a position can be re-ranged only when empty (no liquidity, and — unless owed amounts are
    explicitly kept — no owed fees or rewards), to a DIFFERENT valid range; the growth checkpoints of
    fees and of every reward are reset to zero, owed amounts and liquidity are untouched. -/
theorem reset_spec (ts : Nat) (p q : PositionD) (lo hi : Int) (keep : Bool)
    (h : resetPositionRange ts p lo hi keep = .ok q) :
    isPositionEmpty p keep = true ∧ ¬ (lo = p.lower ∧ hi = p.upper) ∧ validateTickRange ts lo hi = .ok () ∧
    q.lower = lo ∧ q.upper = hi ∧ q.cpA = 0 ∧ q.cpB = 0 ∧ (∀ r ∈ q.rewards, r.checkpoint = 0) ∧
    q.liq = p.liq ∧ q.owedA = p.owedA ∧ q.owedB = p.owedB := by
  simp only [resetPositionRange, err_ite_ok, Bool.not_eq_true', Bool.not_eq_false, Bool.and_eq_true, decide_eq_true_eq] at h
  obtain ⟨e, s, h⟩ := h
  split at h
  · cases h
  · rename_i hv
    cases h
    refine ⟨e, s, hv, rfl, rfl, rfl, rfl, ?_, rfl, rfl, rfl⟩
    intro r hr
    obtain ⟨r0, _, rfl⟩ := List.mem_map.mp hr
    rfl

theorem empty_means_no_liquidity (p : PositionD) (keep : Bool) (h : isPositionEmpty p keep = true) : p.liq = 0 := by
  unfold isPositionEmpty at h
  cases keep <;> simp at h <;> omega

/-! ### position bundle bitmap -/

def WFBitmap (bm : List Nat) : Prop := bm.length = 32 ∧ ∀ x ∈ bm, x < 256

theorem bundleBit_eq (bm : List Nat) (idx : Nat) : bundleBit bm idx = (bm.getD (idx / 8) 0).testBit (idx % 8) := by
  rw [bundleBit, Nat.testBit_eq_decide_div_mod_eq]

theorem bundleBit_flip (bm : List Nat) (idx j : Nat) (h : idx / 8 < bm.length) :
    bundleBit (bm.set (idx / 8) (Nat.xor (bm.getD (idx / 8) 0) (2 ^ (idx % 8)))) j = (bundleBit bm j ^^ decide (j = idx)) := by
  rw [bundleBit_eq, bundleBit_eq, List.getD_eq_getElem?_getD, List.getElem?_set]
  by_cases hq : idx / 8 = j / 8
  · rw [if_pos hq, if_pos h, Option.getD_some, ← hq]
    show (bm.getD (idx / 8) 0 ^^^ 2 ^ (idx % 8)).testBit (j % 8) = _
    rw [Nat.testBit_xor, Nat.testBit_two_pow]
    congr 2
    exact propext ⟨fun e => by omega, fun e => by rw [e]⟩
  · rw [if_neg hq, ← List.getD_eq_getElem?_getD, decide_eq_false (fun e => hq (by rw [e])), Bool.xor_false]

/-- C18(c): a successful open/close flips exactly the addressed bit; opening an open index and
    closing a closed one fail; indexes ≥ 256 fail. -/
theorem bundle_update_spec (bm bm' : List Nat) (idx : Nat) (op : Bool) (wf : WFBitmap bm)
    (h : bundleUpdate bm idx op = .ok bm') :
    idx < 256 ∧ bundleBit bm idx = !op ∧ WFBitmap bm' ∧
    ∀ j, j < 256 → bundleBit bm' j = (if j = idx then op else bundleBit bm j) := by
  simp only [bundleUpdate, err_ite_ok, Except.ok.injEq] at h
  obtain ⟨hi, c1, c2, rfl⟩ := h
  have hbit : bundleBit bm idx = !op := by
    cases op
    · simpa using c2
    · simpa using c1
  have hlen : idx / 8 < bm.length := by rw [wf.1]; omega
  refine ⟨by omega, hbit, ⟨by rw [List.length_set]; exact wf.1, ?_⟩, ?_⟩
  · intro x hx
    rcases List.mem_or_eq_of_mem_set hx with hm | rfl
    · exact wf.2 x hm
    · refine Nat.xor_lt_two_pow (n := 8) ?_ (Nat.pow_lt_pow_right (by decide) (Nat.mod_lt _ (by decide)))
      rw [List.getD_eq_getElem?_getD, List.getElem?_eq_getElem hlen]
      exact wf.2 _ (List.getElem_mem hlen)
  · intro j _
    rw [bundleBit_flip bm idx j hlen]
    by_cases hj : j = idx
    · rw [if_pos hj, hj, hbit, decide_eq_true rfl, Bool.xor_true, Bool.not_not]
    · rw [if_neg hj, decide_eq_false hj, Bool.xor_false]

theorem bundleBit_of_deletable (bm : List Nat) (h : bundleDeletable bm = true) (j : Nat) : bundleBit bm j = false := by
  have : bm.getD (j / 8) 0 = 0 := by
    rw [List.getD_eq_getElem?_getD]
    cases hx : bm[j / 8]? with
    | none => rfl
    | some x => simpa using List.all_eq_true.mp h x (List.mem_of_getElem? hx)
  rw [bundleBit_eq, this, Nat.zero_testBit]

/-- C18(e): a bundle is deletable exactly when no bundled position is open. -/
theorem deletable_iff (bm : List Nat) (wf : WFBitmap bm) :
    bundleDeletable bm = true ↔ ∀ j, j < 256 → bundleBit bm j = false := by
  refine ⟨fun h j _ => bundleBit_of_deletable bm h j, fun h => ?_⟩
  rw [bundleDeletable, List.all_eq_true]
  intro x hx
  obtain ⟨k, hk, rfl⟩ := List.getElem_of_mem hx
  rw [beq_iff_eq]
  -- a byte is zero when its eight low bits are; the higher ones vanish because it is below 256
  apply Nat.eq_of_testBit_eq
  intro b
  rw [Nat.zero_testBit]
  by_cases hb : b < 8
  · have := h (8 * k + b) (by have := wf.1; omega)
    rwa [bundleBit_eq, Nat.mul_add_div (by decide), Nat.div_eq_of_lt hb, Nat.add_zero, Nat.mul_add_mod,
      Nat.mod_eq_of_lt hb, List.getD_eq_getElem?_getD, List.getElem?_eq_getElem hk] at this
  · exact Nat.testBit_lt_two_pow (Nat.lt_of_lt_of_le (wf.2 _ hx) (Nat.pow_le_pow_right (n := 2) (by decide) (by omega : 8 ≤ b)))

/-- the set of open indexes after a sequence of successful operations from the empty bundle -/
def openAfter : List (Nat × Bool) → Nat → Bool
  | [], _ => false
  | (i, op) :: rest, j => if j = i then op else openAfter rest j

def runOps : List (Nat × Bool) → R (List Nat)
  | [] => .ok (List.replicate 32 0)
  | (i, op) :: rest =>
    match runOps rest with
    | .error e => .error e
    | .ok bm => bundleUpdate bm i op

/-- C18(d): after ANY sequence of successful open/close operations the bitmap marks exactly the open
    bundled positions (operations listed most-recent first). -/
theorem bitmap_marks_open : ∀ (ops : List (Nat × Bool)) (bm : List Nat), runOps ops = .ok bm →
    WFBitmap bm ∧ ∀ j, j < 256 → bundleBit bm j = openAfter ops j := by
  intro ops
  induction ops with
  | nil =>
    intro bm h
    cases h
    refine ⟨⟨List.length_replicate, fun x hx => ?_⟩, fun j _ => bundleBit_of_deletable _ (by decide) j⟩
    rw [List.eq_of_mem_replicate hx]
    decide
  | cons hd tl ih =>
    intro bm h
    obtain ⟨i, op⟩ := hd
    rw [runOps] at h
    split at h
    · cases h
    · rename_i bm0 hr
      obtain ⟨wf0, hb0⟩ := ih bm0 hr
      obtain ⟨_, _, wf', hb'⟩ := bundle_update_spec bm0 bm i op wf0 h
      refine ⟨wf', fun j hj => ?_⟩
      rw [hb' j hj, openAfter, hb0 j hj]

/-! ### lifecycle guards regenerated from the handlers (T) -/

/-- (handler file, rejection that must be present) -/
def guardRows : List (String × String) := [
  ("instructions/close_position.rs", "!Position::is_position_empty(&ctx.accounts.position) => ClosePositionNotEmpty"),
  ("instructions/close_position_with_token_extensions.rs", "!Position::is_position_empty(&ctx.accounts.position) => ClosePositionNotEmpty"),
  ("instructions/close_position_with_token_extensions.rs", "is_locked_position(&ctx.accounts.position_token_account) => OperationNotAllowedOnLockedPosition"),
  ("instructions/close_bundled_position.rs", "!Position::is_position_empty(&ctx.accounts.bundled_position) => ClosePositionNotEmpty"),
  ("instructions/decrease_liquidity.rs", "is_locked_position(&ctx.accounts.position_token_account) => OperationNotAllowedOnLockedPosition"),
  ("instructions/v2/decrease_liquidity.rs", "is_locked_position(&ctx.accounts.position_token_account) => OperationNotAllowedOnLockedPosition"),
  ("instructions/lock_position.rs", "ctx.accounts.position.liquidity == 0 => PositionNotLockable"),
  ("instructions/delete_position_bundle.rs", "!position_bundle.is_deletable() => PositionBundleNotDeletable")]

/-- Pinocchio: (handler file, rejection in the core) — decrease and reposition refuse locked positions;
    increase handlers must NOT contain such a rejection (a locked position can still add liquidity) -/
def pinoLockedRows : List String :=
  ["pinocchio/instructions/decrease_liquidity.rs", "pinocchio/instructions/decrease_liquidity_v2.rs", "pinocchio/instructions/reposition_liquidity_v2.rs"]
def pinoUnlockedRows : List String :=
  ["pinocchio/instructions/increase_liquidity.rs", "pinocchio/instructions/increase_liquidity_v2.rs", "pinocchio/instructions/increase_liquidity_by_token_amounts_v2.rs"]

def lockedReject : String := "reject: pino_is_locked_position(&position_token_account) => OperationNotAllowedOnLockedPosition"

def guardOk (r : String × String) : Bool :=
  match handlerGuards.find? (·.1 == r.1) with
  | none => false
  | some (_, gs) => gs.any fun g => g.1 == "reject" && g.2 == r.2

def pinoCore (file : String) : List String :=
  match pinoSpecs.find? (·.file == file) with
  | none => []
  | some s => s.core

/-- C18(f): close requires an empty position, locked positions cannot be decreased / closed /
    repositioned, only positions with liquidity can be locked, a bundle is deleted only when deletable;
    the lock instruction additionally requires a not-yet-frozen token account. -/
theorem lifecycle_guards_met :
    guardRows.all guardOk = true ∧
    pinoLockedRows.all (fun f => (pinoCore f).contains lockedReject) = true ∧
    pinoUnlockedRows.all (fun f => !(pinoCore f).contains lockedReject && !(pinoCore f).isEmpty) = true ∧
    hasAttr anchorSpecs "LockPosition" "position_token_account" "constraint" "!position_token_account.is_frozen()" = true := by
  decide +kernel

-- Non-vacuity
example : validateTickRange 64 (-128) 128 = .ok () ∧ validateTickRange 64 (-100) 128 = .error .InvalidTickIndex ∧
    validateTickRange 32896 (-427648) 427648 = .ok () ∧ validateTickRange 32896 0 32896 = .error .FullRangeOnlyPool := by decide +kernel
example : (runOps [(3, false), (11, true), (3, true)]).toOption.map (fun bm => (bundleBit bm 3, bundleBit bm 11, bundleDeletable bm))
    = some (false, true, false) := by decide +kernel

end WP.C18

namespace WP.C18
open WP WP.Gen WP.C09

theorem snap_up_props (a ts : Int) (hts : 0 < ts) :
    snapUp a ts % ts = 0 ∧ a ≤ snapUp a ts ∧ snapUp a ts < a + ts := by
  unfold snapUp
  have h0 : 0 ≤ a % ts := Int.emod_nonneg a (by omega)
  have h1 : a % ts < ts := Int.emod_lt_of_pos a hts
  have hd := Int.mul_ediv_add_emod a ts
  by_cases c : a % ts = 0
  · rw [if_pos c]; exact ⟨c, by omega, by omega⟩
  · rw [if_neg c]
    have e : a + (ts - a % ts) = ts * (a / ts + 1) := by
      have : ts * (a / ts + 1) = ts * (a / ts) + ts := by ring
      omega
    refine ⟨by rw [e]; exact Int.mul_emod_right _ _, by omega, by omega⟩

theorem snap_down_props (a ts : Int) (hts : 0 < ts) :
    snapDown a ts % ts = 0 ∧ snapDown a ts ≤ a ∧ a < snapDown a ts + ts := by
  unfold snapDown
  have h0 : 0 ≤ a % ts := Int.emod_nonneg a (by omega)
  have h1 : a % ts < ts := Int.emod_lt_of_pos a hts
  have hd := Int.mul_ediv_add_emod a ts
  have e : a - a % ts = ts * (a / ts) := by omega
  refine ⟨by rw [e]; exact Int.mul_emod_right _ _, by omega, by omega⟩

/-- C18(g): a lower bound left to be derived from the price becomes the NEAREST usable tick whose
    price is at or above the current price (so the position is entirely above the price). -/
theorem resolve_lower_spec (ts price : Nat) (l : Int) (hts : 0 < ts)
    (hp1 : MIN_SQRT_PRICE_X64 ≤ price) (hp2 : price ≤ MAX_SQRT_PRICE_X64)
    (h : resolveLower ts price = .ok l) :
    l % (ts : Int) = 0 ∧ MIN_TICK_INDEX ≤ l ∧ l ≤ MAX_TICK_INDEX ∧ price ≤ sp l ∧
      (MIN_TICK_INDEX ≤ l - ts → sp (l - ts) < price) := by
  obtain ⟨t1, t2, t3, t4⟩ := ti_spec price hp1 hp2
  -- the anchor is the first tick whose price is at or above `price`
  obtain ⟨a, ha, a1, a2, a3, a4⟩ : ∃ a, a = (if sp (ti price) = price then ti price else ti price + 1) ∧
      MIN_TICK_INDEX ≤ a ∧ a ≤ MAX_TICK_INDEX ∧ price ≤ sp a ∧ ∀ t, MIN_TICK_INDEX ≤ t → t < a → sp t < price := by
    by_cases on : sp (ti price) = price
    · refine ⟨ti price, by rw [if_pos on], t1, t2, by omega, fun t m h => ?_⟩
      have := sp_lt t _ m h t2
      omega
    · have hlt : sp (ti price) < price := by omega
      have hpt : ti price < MAX_TICK_INDEX := by
        by_contra hc
        have : ti price = MAX_TICK_INDEX := by omega
        rw [this, sp_ends.2] at hlt
        omega
      refine ⟨ti price + 1, by rw [if_neg on], by omega, by omega, by have := t4 hpt; omega, fun t m h => ?_⟩
      have := sp_le t _ m (by omega) t2
      omega
  simp only [resolveLower, ← ha, err_ite_ok, Except.ok.injEq] at h
  obtain ⟨hmax, rfl⟩ := h
  obtain ⟨s1, s2, s3⟩ := snap_up_props a ts (by exact_mod_cast hts)
  exact ⟨s1, by omega, by omega, le_trans a3 (sp_le a _ a1 s2 (by omega)), fun hm => a4 _ hm (by omega)⟩

/-- C18(h): an upper bound left to be derived becomes the NEAREST usable tick whose price is at or
    below the current price (so the position is entirely below the price). -/
theorem resolve_upper_spec (ts price : Nat) (u : Int) (hts : 0 < ts)
    (hp1 : MIN_SQRT_PRICE_X64 ≤ price) (hp2 : price ≤ MAX_SQRT_PRICE_X64)
    (h : resolveUpper ts price = .ok u) :
    u % (ts : Int) = 0 ∧ MIN_TICK_INDEX ≤ u ∧ u ≤ MAX_TICK_INDEX ∧ sp u ≤ price ∧
      (u + ts ≤ MAX_TICK_INDEX → price < sp (u + ts)) := by
  simp only [resolveUpper, err_ite_ok, Except.ok.injEq] at h
  obtain ⟨hmin, rfl⟩ := h
  obtain ⟨t1, t2, t3, t4⟩ := ti_spec price hp1 hp2
  obtain ⟨s1, s2, s3⟩ := snap_down_props (ti price) ts (by exact_mod_cast hts)
  refine ⟨s1, by omega, by omega, le_trans (sp_le _ (ti price) (by omega) s2 t2) t3, fun hm => ?_⟩
  exact lt_of_lt_of_le (t4 (by omega)) (sp_le (ti price + 1) _ (by omega) (by omega) hm)

/-- how `resolve_one_sided_position_ticks` uses the two derivations -/
theorem resolve_one_sided_cases (lo hi : Int) (ts price : Nat) (hts2 : ts < FULL_RANGE_ONLY_TICK_SPACING_THRESHOLD) :
    (lo ≠ I32_MIN → hi ≠ I32_MAX → resolveOneSided lo hi ts price = .ok (lo, hi)) ∧
    (lo = I32_MIN → hi = I32_MAX → resolveOneSided lo hi ts price = .error .InvalidTickIndex) ∧
    (lo = I32_MIN → hi ≠ I32_MAX → resolveOneSided lo hi ts price = (resolveLower ts price).map fun l => (l, hi)) ∧
    (lo ≠ I32_MIN → hi = I32_MAX → resolveOneSided lo hi ts price = (resolveUpper ts price).map fun u => (lo, u)) := by
  have hn : ¬ ts ≥ FULL_RANGE_ONLY_TICK_SPACING_THRESHOLD := by omega
  refine ⟨?_, ?_, ?_, ?_⟩ <;> intro a b <;> unfold resolveOneSided <;> simp only [a, b, hn, ne_eq, not_true_eq_false, not_false_eq_true,
    and_self, and_false, or_false, if_true, if_false, and_true]
  · cases resolveLower ts price <;> rfl
  · cases resolveUpper ts price <;> rfl

end WP.C18
