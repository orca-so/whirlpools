import WP.Model.Admission
import WP.Gen.WriteSites
import WP.Lemmas.Except
/-
  Property C19 — pools exist only with in-bound parameters and over supported token mints.

  (1) setters and initialisation reject out-of-bound values (theorems about the model, tied by the
      families `setfee`, `initpool`, `afc`);
  (2) the bounded fields are written ONLY inside those checked functions: the inventory of write
      sites is regenerated from the whole source tree on every run and must equal the expected set;
  (3) the adaptive-fee constants accepted by `validate_constants` satisfy the published rules;
  (4) the mint admission function equals the published table for ALL extension lists: an accepted
      Token-2022 mint is not the native mint, has no un-badged freeze authority, and every
      extension in its TLV data is on the supported list, badge-gated ones only with a badge,
      non-transferable / unknown ones never (`admit_sound`), for well-formed and truncated TLV.
  NOT proved: that every swap keeps the price within bounds (C03 `PriceBounded`, unconditional); at
  reachable states it is `Geo.tp` (WP/Props/Reach.lean).
-/
namespace WP.C19
open WP WP.Gen

theorem updateFeeRate_ok {r v : Nat} : updateFeeRate r = .ok v ↔ v = r ∧ r ≤ MAX_FEE_RATE := by
  rw [updateFeeRate, err_ite_ok, Except.ok.injEq, Nat.not_lt, and_comm, eq_comm]

theorem updateProtocolFeeRate_ok {r v : Nat} : updateProtocolFeeRate r = .ok v ↔ v = r ∧ r ≤ MAX_PROTOCOL_FEE_RATE := by
  rw [updateProtocolFeeRate, err_ite_ok, Except.ok.injEq, Nat.not_lt, and_comm, eq_comm]

theorem fee_rate_bound (r v : Nat) (h : updateFeeRate r = .ok v) : v = r ∧ v ≤ MAX_FEE_RATE := by
  obtain ⟨rfl, hr⟩ := updateFeeRate_ok.mp h
  exact ⟨rfl, hr⟩

theorem protocol_fee_rate_bound (r v : Nat) (h : updateProtocolFeeRate r = .ok v) : v = r ∧ v ≤ MAX_PROTOCOL_FEE_RATE := by
  obtain ⟨rfl, hr⟩ := updateProtocolFeeRate_ok.mp h
  exact ⟨rfl, hr⟩

/-- `Whirlpool::initialize` succeeds exactly on in-bound arguments, and records them -/
theorem initializePoolChecks_ok {ma mb price ts fr pr : Nat} {p : PoolD} :
    initializePoolChecks ma mb price ts fr pr = .ok p ↔
      ma < mb ∧ MIN_SQRT_PRICE_X64 ≤ price ∧ price ≤ MAX_SQRT_PRICE_X64 ∧ ts ≠ 0 ∧ fr ≤ MAX_FEE_RATE ∧
      pr ≤ MAX_PROTOCOL_FEE_RATE ∧ p = { ts := ts, feeRate := fr, protoRate := pr, price := price, tick := ti price } := by
  simp only [initializePoolChecks, err_ite_ok, Bool.not_eq_true', Bool.not_eq_false, Bool.and_eq_true, decide_eq_true_eq,
    Nat.not_le, ge_iff_le, and_assoc, ne_eq]
  refine and_congr_right fun _ => and_congr_right fun _ => and_congr_right fun _ => and_congr_right fun _ => ?_
  constructor
  · intro h
    split at h
    · cases h
    · rename_i f hf
      split at h
      · cases h
      · rename_i q hq
        cases h
        obtain ⟨rfl, hf⟩ := updateFeeRate_ok.mp hf
        obtain ⟨rfl, hq⟩ := updateProtocolFeeRate_ok.mp hq
        exact ⟨hf, hq, rfl⟩
  · rintro ⟨hf, hq, rfl⟩
    rw [updateFeeRate_ok.mpr ⟨rfl, hf⟩, updateProtocolFeeRate_ok.mpr ⟨rfl, hq⟩]

/-- C19(a): a pool can be initialised only with canonical mint order, an in-bounds price, non-zero
    tick spacing, fee rate ≤ 6% and protocol fee rate ≤ 25%. -/
theorem init_pool_bounds (ma mb price ts fr pr : Nat) (p : PoolD)
    (h : initializePoolChecks ma mb price ts fr pr = .ok p) :
    ma < mb ∧ MIN_SQRT_PRICE_X64 ≤ p.price ∧ p.price ≤ MAX_SQRT_PRICE_X64 ∧ p.ts ≠ 0 ∧
    p.feeRate ≤ MAX_FEE_RATE ∧ p.protoRate ≤ MAX_PROTOCOL_FEE_RATE ∧ p.tick = ti p.price := by
  obtain ⟨h1, h2, h3, h4, h5, h6, rfl⟩ := initializePoolChecks_ok.mp h
  exact ⟨h1, h2, h3, h4, h5, h6, rfl⟩

/-- C19(b): accepted adaptive-fee constants satisfy the published validity rules. -/
theorem validate_constants_spec (ts : Nat) (c : AfConstants) (h : validateConstants ts c = true) :
    1 ≤ c.filterPeriod ∧ c.filterPeriod < c.decayPeriod ∧ c.controlFactor < ADAPTIVE_FEE_CONTROL_FACTOR_DENOMINATOR ∧
    c.maxVolAcc * c.groupSize ≤ 4294967295 ∧ c.reductionFactor < REDUCTION_FACTOR_DENOMINATOR ∧
    1 ≤ c.groupSize ∧ c.groupSize ≤ ts ∧ ts % c.groupSize = 0 ∧
    1 ≤ c.majorSwapThresholdTicks ∧ c.majorSwapThresholdTicks ≤ ts * TICK_ARRAY_SIZE := by
  simp only [validateConstants, Bool.ite_eq_true_distrib, if_false_left, Bool.or_eq_true, decide_eq_true_eq, not_or,
    Bool.false_eq_true, and_true, Decidable.not_not, ge_iff_le, gt_iff_lt, Nat.not_le, Nat.not_lt] at h
  obtain ⟨c1, ⟨-, c2⟩, c3, c4, c5, ⟨⟨c6, c6'⟩, c6''⟩, c7, c7'⟩ := h
  exact ⟨Nat.pos_of_ne_zero c1, c2, c3, c4, c5, Nat.pos_of_ne_zero c6, c6', c6'', Nat.pos_of_ne_zero c7, c7'⟩

/-! ### write-site inventory (T) -/

/-- the ONLY functions allowed to assign the bounded fields -/
def expectedWriteSites : List (String × String × String) := [
  ("adaptive_fee_constants", "state/oracle.rs", "initialize_adaptive_fee_constants"),
  ("adaptive_fee_control_factor", "state/adaptive_fee_tier.rs", "update_adaptive_fee_constants"),
  ("adaptive_fee_variables", "state/oracle.rs", "reset_adaptive_fee_variables"),
  ("adaptive_fee_variables", "state/oracle.rs", "update_adaptive_fee_variables"),
  ("decay_period", "state/adaptive_fee_tier.rs", "update_adaptive_fee_constants"),
  ("default_base_fee_rate", "state/adaptive_fee_tier.rs", "update_default_base_fee_rate"),
  ("default_fee_rate", "state/fee_tier.rs", "update_default_fee_rate"),
  ("default_protocol_fee_rate", "state/config.rs", "update_default_protocol_fee_rate"),
  ("fee_rate", "state/whirlpool.rs", "update_fee_rate"),
  ("filter_period", "state/adaptive_fee_tier.rs", "update_adaptive_fee_constants"),
  ("major_swap_threshold_ticks", "state/adaptive_fee_tier.rs", "update_adaptive_fee_constants"),
  ("max_volatility_accumulator", "state/adaptive_fee_tier.rs", "update_adaptive_fee_constants"),
  ("protocol_fee_rate", "state/whirlpool.rs", "update_protocol_fee_rate"),
  ("reduction_factor", "state/adaptive_fee_tier.rs", "update_adaptive_fee_constants"),
  ("sqrt_price", "state/whirlpool.rs", "initialize"),
  ("sqrt_price", "state/whirlpool.rs", "update_after_swap"),
  ("tick_current_index", "state/whirlpool.rs", "initialize"),
  ("tick_current_index", "state/whirlpool.rs", "update_after_swap"),
  ("tick_group_size", "state/adaptive_fee_tier.rs", "update_adaptive_fee_constants"),
  ("tick_spacing", "state/adaptive_fee_tier.rs", "initialize"),
  ("tick_spacing", "state/fee_tier.rs", "initialize"),
  ("tick_spacing", "state/whirlpool.rs", "initialize"),
  ("trade_enable_timestamp", "state/oracle.rs", "initialize")]

/-- C19(c): no function other than the checked setters / initialisers / the swap commit writes a
    bounded field anywhere in the program source (regenerated on every run). -/
theorem write_sites_exact : writeSites = expectedWriteSites := by decide +kernel

/-! ### mint admission -/

/-- the published table: what an accepted extension list looks like -/
def extOk (freeze badge : Bool) (tlv : List Nat) (all : List (Nat × Nat × Nat)) (e : Nat × Nat × Nat) : Prop :=
  match extClass e.1 with
  | .supported => True
  | .badgeGated => badge = true
  | .defaultState => badge = true ∧
      (∃ off len, all.find? (fun x => x.1 == 6) = some (6, off, len) ∧ len = 1 ∧ (tlv.getD off 0 = 1 ∨ freeze = true))
  | .never => False

theorem ok_false_ite {c : Prop} [Decidable c] {x : Except String Bool} :
    (if c then .ok false else x) = .ok true ↔ ¬ c ∧ x = .ok true :=
  ite_eq_iff_of_ne (fun h => Bool.noConfusion (Except.ok.inj h))

theorem admitExts_cons {tlv : List Nat} {freeze badge : Bool} {all tl : List (Nat × Nat × Nat)} {ty off len : Nat}
    (h : admitExts tlv freeze badge all ((ty, off, len) :: tl) = .ok true) :
    extOk freeze badge tlv all (ty, off, len) ∧ admitExts tlv freeze badge all tl = .ok true := by
  unfold admitExts at h
  unfold extOk
  cases hc : extClass ty with
  | supported => simp only [hc] at h ⊢; exact ⟨trivial, h⟩
  | badgeGated =>
    simp only [hc, ok_false_ite, Bool.not_eq_true', Bool.not_eq_false] at h ⊢
    exact h
  | defaultState =>
    simp only [hc, ok_false_ite, Bool.not_eq_true', Bool.not_eq_false] at h ⊢
    obtain ⟨hb, h⟩ := h
    cases hf : all.find? (fun x => x.1 == 6) with
    | none => rw [hf] at h; cases h
    | some r =>
      obtain ⟨t6, o6, l6⟩ := r
      rw [hf] at h
      simp only [err_ite_ok, ok_false_ite, Decidable.not_not, Bool.and_eq_true, decide_eq_true_eq, Bool.not_eq_true',
        not_and, Bool.not_eq_false] at h
      obtain ⟨hl, hd, h⟩ := h
      have ht6 : t6 = 6 := by simpa using List.find?_some hf
      exact ⟨⟨hb, o6, l6, by rw [ht6], hl, Decidable.or_iff_not_imp_left.mpr hd⟩, h⟩
  | never => simp only [hc] at h; cases h

theorem admitExts_sound (tlv : List Nat) (freeze badge : Bool) (all : List (Nat × Nat × Nat)) :
    ∀ l, admitExts tlv freeze badge all l = .ok true → ∀ e ∈ l, extOk freeze badge tlv all e := by
  intro l
  induction l with
  | nil => intro _ e he; cases he
  | cons hd tl ih =>
    intro h e he
    obtain ⟨hhd, htl⟩ := admitExts_cons h
    rcases List.mem_cons.mp he with rfl | e2
    · exact hhd
    · exact ih htl e e2

/-- C19(d): a mint is admitted only if it is a plain SPL mint, or a Token-2022 mint that is not the
    native mint, whose freeze authority (if any) is covered by a token badge, whose TLV data parses,
    and ALL of whose extensions are supported — badge-gated ones only with a badge, a non-default
    account state only with a freeze authority, non-transferable / unknown ones never. -/
theorem admit_sound (token2022 native freeze badge : Bool) (tlv : List Nat)
    (h : isSupportedTokenMint token2022 native freeze badge tlv = .ok true) :
    token2022 = false ∨
    (native = false ∧ (freeze = true → badge = true) ∧
      ∃ exts, parseTlv tlv (tlv.length + 1) 0 [] = .ok exts ∧ ∀ e ∈ exts, extOk freeze badge tlv exts e) := by
  unfold isSupportedTokenMint at h
  cases token2022 with
  | false => left; rfl
  | true =>
    right
    simp only [Bool.not_true, Bool.false_eq_true, if_false, ok_false_ite, Bool.not_eq_true, Bool.and_eq_false_imp,
      Bool.not_eq_eq_eq_not, Bool.not_false] at h
    obtain ⟨hn, hfb, h⟩ := h
    cases hp : parseTlv tlv (tlv.length + 1) 0 [] with
    | error e => rw [hp] at h; cases h
    | ok exts =>
      rw [hp] at h
      exact ⟨hn, hfb, exts, rfl, admitExts_sound tlv freeze badge exts exts h⟩

/-- C19(e): a token badge counts only if it is owned by the program and names this config and this mint. -/
theorem badge_spec (o c m : Bool) : isTokenBadgeInitialized o c m = true ↔ (o = true ∧ c = true ∧ m = true) := by
  unfold isTokenBadgeInitialized; cases o <;> cases c <;> cases m <;> simp

theorem verify_mint_sound (m : MintIn) (u : Unit) (hm : verifySupportedTokenMint m = .ok u) :
    isSupportedTokenMint m.token2022 m.native m.freeze (badgeInit m.badge) m.tlv = .ok true := by
  unfold verifySupportedTokenMint at hm
  split at hm
  · cases hm
  · cases hm
  · assumption

/-- a badge slot counts only when it holds the program-owned badge of exactly this config and mint -/
theorem badgeInit_spec (k : Nat) : badgeInit k = true ↔ (k = 1 ∨ k = 5) := by
  unfold badgeInit isTokenBadgeInitialized
  by_cases h1 : k = 1 ∨ k = 5
  · simp [h1]
  · rw [if_neg h1]
    by_cases h3 : k = 3
    · simp [h3]
    · rw [if_neg h3]
      by_cases h4 : k = 4
      · simp [h4]
      · rw [if_neg h4]; simp [h1]

/-- C19 at instruction level: whenever `initialize_pool_v2` creates a pool, the mint keys are in canonical
    order, the price is within the protocol bounds, the spacing is the fee tier's and non-zero, fee and
    protocol fee rates are the tier's / config's defaults and within their maxima, and BOTH mints pass the
    admission table with the badge that really sits at the badge address of (config, mint). -/
theorem init_pool_v2_sound (keyA keyB : Nat) (a b : MintIn) (price ts tierTs fee proto : Nat) (p : PoolD) (nt : Bool)
    (wrongAddr : Bool) (h : initializePoolV2 keyA keyB a b price ts tierTs fee proto wrongAddr = .ok (p, nt)) :
    wrongAddr = false ∧ keyA < keyB ∧ p.price = price ∧ MIN_SQRT_PRICE_X64 ≤ price ∧ price ≤ MAX_SQRT_PRICE_X64 ∧
    p.ts = ts ∧ tierTs = ts ∧ ts ≠ 0 ∧ p.feeRate = fee ∧ fee ≤ MAX_FEE_RATE ∧
    p.protoRate = proto ∧ proto ≤ MAX_PROTOCOL_FEE_RATE ∧ p.tick = ti price ∧ a.badge ≠ 2 ∧ b.badge ≠ 2 ∧
    isSupportedTokenMint a.token2022 a.native a.freeze (badgeInit a.badge) a.tlv = .ok true ∧
    isSupportedTokenMint b.token2022 b.native b.freeze (badgeInit b.badge) b.tlv = .ok true := by
  simp only [initializePoolV2, err_ite_ok, Bool.not_eq_true, not_or, Decidable.not_not] at h
  obtain ⟨hwa, ⟨ha2, hb2⟩, hts, h⟩ := h
  split at h
  · cases h
  rename_i _ ha
  split at h
  · cases h
  rename_i _ hb
  split at h
  · cases h
  rename_i q hq
  cases h
  obtain ⟨k1, k2, k3, k4, k5, k6, rfl⟩ := initializePoolChecks_ok.mp hq
  exact ⟨hwa, k1, rfl, k2, k3, rfl, hts, k4, rfl, k5, rfl, k6, rfl, ha2, hb2, verify_mint_sound a _ ha, verify_mint_sound b _ hb⟩

theorem valid_te_spec (te : Option Nat) (now : Nat) (perm : Bool) (h : isValidTradeEnableTimestamp te now perm = true) :
    te = none ∨ ∃ t, te = some t ∧ perm = true ∧ t ≤ now + MAX_TRADE_ENABLE_TIMESTAMP_DELTA ∧ now ≤ t + 30 := by
  unfold isValidTradeEnableTimestamp at h
  cases te with
  | none => left; rfl
  | some t =>
    right
    simp only [] at h
    cases perm with
    | false => simp at h
    | true =>
      simp only [Bool.not_true, Bool.false_eq_true, if_false] at h
      by_cases c : t > now
      · rw [if_pos c] at h; exact ⟨t, rfl, rfl, by have := of_decide_eq_true h; omega, by omega⟩
      · rw [if_neg c] at h; exact ⟨t, rfl, rfl, by omega, by have := of_decide_eq_true h; omega⟩

/-- C19 / C14 / C17 at instruction level for adaptive-fee pools: whenever `initialize_pool_with_adaptive_fee`
    creates a pool, the authority slot signed and — for a permissioned tier — is the tier's authority; the mint
    keys are in canonical order; price, fee rate and protocol fee rate are within bounds and are the tier's /
    config's; both mints pass the admission table; the adaptive-fee constants copied into the Oracle satisfy the
    published validity rules for the pool's spacing; and a trade-enable time is accepted only from a
    permissioned tier, at most 72 h ahead and at most 30 s in the past. -/
theorem init_pool_af_sound (keyA keyB : Nat) (a b : MintIn) (price proto now : Nat) (te : Option Nat)
    (authMode : Nat) (perm : Bool) (ts fee : Nat) (c : AfConstants) (p : PoolD) (nt : Bool) (t : Nat)
    (h : initializePoolWithAdaptiveFee keyA keyB a b price proto now te authMode perm ts fee c = .ok (p, nt, t)) :
    authMode ≠ 2 ∧ authMode ≠ 3 ∧ authMode ≠ 4 ∧ (perm = true → authMode ≠ 1) ∧
    keyA < keyB ∧ p.price = price ∧ MIN_SQRT_PRICE_X64 ≤ price ∧ price ≤ MAX_SQRT_PRICE_X64 ∧
    p.ts = ts ∧ ts ≠ 0 ∧ p.feeRate = fee ∧ fee ≤ MAX_FEE_RATE ∧ p.protoRate = proto ∧ proto ≤ MAX_PROTOCOL_FEE_RATE ∧
    isSupportedTokenMint a.token2022 a.native a.freeze (badgeInit a.badge) a.tlv = .ok true ∧
    isSupportedTokenMint b.token2022 b.native b.freeze (badgeInit b.badge) b.tlv = .ok true ∧
    validateConstants ts c = true ∧ t = te.getD 0 ∧
    (te = none ∨ ∃ x, te = some x ∧ perm = true ∧ x ≤ now + MAX_TRADE_ENABLE_TIMESTAMP_DELTA ∧ now ≤ x + 30) := by
  simp only [initializePoolWithAdaptiveFee, err_ite_ok, not_or, Bool.and_eq_true, decide_eq_true_eq, not_and] at h
  obtain ⟨h2, ⟨h3, h4⟩, -, hperm, h⟩ := h
  split at h
  · cases h
  rename_i _ ha
  split at h
  · cases h
  rename_i _ hb
  rw [err_ite_ok, Bool.not_eq_true, Bool.not_eq_false'] at h
  obtain ⟨hte, h⟩ := h
  split at h
  · cases h
  rename_i q hq
  simp only [err_ite_ok, Bool.not_eq_true, Bool.not_eq_false', Except.ok.injEq, Prod.mk.injEq] at h
  obtain ⟨hc, rfl, -, rfl⟩ := h
  obtain ⟨k1, k2, k3, k4, k5, k6, rfl⟩ := initializePoolChecks_ok.mp hq
  exact ⟨h2, h3, h4, hperm, k1, rfl, k2, k3, rfl, k4, rfl, k5, rfl, k6, verify_mint_sound a _ ha, verify_mint_sound b _ hb,
    hc, rfl, valid_te_spec te now perm hte⟩

-- Non-vacuity: a Token-2022 mint with a permanent delegate makes a pool only with its badge (kind 1), not with
-- another config's data at the address (kind 3), a foreign-owned copy (kind 4) or nothing (kind 0)
example :
    let pd : Nat → MintIn := fun k => { token2022 := true, native := false, freeze := false, tlv := [12, 0, 0, 0], badge := k }
    let plain : MintIn := { token2022 := false, native := false, freeze := true, tlv := [], badge := 0 }
    (initializePoolV2 1 2 (pd 1) plain (2^64) 64 64 3000 300).toOption.isSome = true ∧
    (initializePoolV2 1 2 (pd 0) plain (2^64) 64 64 3000 300).toOption.isSome = false ∧
    (initializePoolV2 1 2 (pd 3) plain (2^64) 64 64 3000 300).toOption.isSome = false ∧
    (initializePoolV2 1 2 (pd 4) plain (2^64) 64 64 3000 300).toOption.isSome = false ∧
    (initializePoolV2 1 2 (pd 2) plain (2^64) 64 64 3000 300).toOption.isSome = false ∧
    (initializePoolV2 2 1 (pd 1) plain (2^64) 64 64 3000 300).toOption.isSome = false ∧
    (initializePoolV2 1 2 (pd 1) plain (2^64) 64 8 3000 300).toOption.isSome = false := by decide +kernel

-- Non-vacuity: TransferFeeConfig is admitted; PermanentDelegate only with a badge; NonTransferable never;
-- an unknown extension number and a truncated entry are rejected / error
example : (isSupportedTokenMint true false false false [1, 0, 2, 0, 7, 7]).toOption = some true ∧
    (isSupportedTokenMint true false false false [12, 0, 0, 0]).toOption = some false ∧
    (isSupportedTokenMint true false false true [12, 0, 0, 0]).toOption = some true ∧
    (isSupportedTokenMint true false false true [9, 0, 0, 0]).toOption = some false ∧
    (isSupportedTokenMint true false false true [40, 0, 0, 0]).toOption = none ∧
    (isSupportedTokenMint true false false true [1, 0, 9, 0, 1]).toOption = none := by decide +kernel

end WP.C19
