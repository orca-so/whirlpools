import WP.Model.SdkSwap
import WP.Props.C02.NextPrice
import WP.Model.FeeRate
import WP.Gen.SdkConsts
import WP.Gen.TickConsts
/-
  Property C20 — SDK quotes equal what the program executes on the same state.

  The SDK (rust-sdk/core) is a separate re-implementation.  Decided here:
   * tick → price: the SDK's ladder is the same statement sequence (checked by the translator) with
     the same 40 literals as the program's (`sdk_ladders_eq`, regenerated on every run), so it is the
     program's function, for which C09 holds; price → tick: same statement sequence and constants
     (`sdk_inverse_same`);
   * token amounts for liquidity: `sdkDeltaA/B` (models of the SDK functions on U256, release
     semantics) return the program's value whenever the program returns one, and fail whenever the
     program fails — in particular on every input the program rejects as overflowing
     (`sdk_delta_a_eq`, `sdk_delta_b_eq`); hence the same for the liquidity quotes' token estimates;
   * next price: `sdk_next_a_eq` (same value / both fail), `sdk_next_b_eq` (same value whenever the
     program's result is a legal price; the SDK additionally refuses prices outside the bounds);
   * slippage: the maximum is ≥ and the minimum is ≤ the estimate, each the exact ⌈·⌉ / ⌊·⌋ of
     estimate × (1 ± tolerance) (`slippage_safe`).
  The models of the SDK functions are tied to the real SDK crate by family `sdkmath`; the SDK's swap
  loop and fee manager against the program's on whole swaps is `SdkSim.sdk_swap_eq`
  (WP/Props/SdkSwap.lean).  A genuine defect found here (64-bit shift truncation) was repaired in
  /repo (known_findings.txt); the theorems are about the repaired code.
-/
namespace WP.C20
open WP WP.Gen WP.C02

theorem sdk_ladders_eq :
    sdkPosLadder = [POS_ODD, POS_EVEN, POS_1, POS_2, POS_3, POS_4, POS_5, POS_6, POS_7, POS_8, POS_9, POS_10, POS_11, POS_12,
                    POS_13, POS_14, POS_15, POS_16, POS_17, POS_18] ∧
    sdkNegLadder = [NEG_ODD, NEG_EVEN, NEG_1, NEG_2, NEG_3, NEG_4, NEG_5, NEG_6, NEG_7, NEG_8, NEG_9, NEG_10, NEG_11, NEG_12,
                    NEG_13, NEG_14, NEG_15, NEG_16, NEG_17, NEG_18] := by
  decide +kernel

theorem sdk_inverse_same : sdkInverseConsts = progInverseConsts ∧ sdkInverseSameText = true := by
  decide +kernel

/-- the constants the SDK's swap quote uses are the program's (regenerated from both sources on every run) and the ones
    the models of the fee manager are written with -/
theorem sdk_shared_consts_eq :
    sdkSharedConsts = [("FEE_RATE_DENOMINATOR", (FEE_RATE_MUL_VALUE : Int)), ("MIN_SQRT_PRICE", (MIN_SQRT_PRICE_X64 : Int)),
      ("MAX_SQRT_PRICE", (MAX_SQRT_PRICE_X64 : Int)), ("TICK_ARRAY_SIZE", (TICK_ARRAY_SIZE : Int)), ("MIN_TICK_INDEX", MIN_TICK_INDEX),
      ("MAX_TICK_INDEX", MAX_TICK_INDEX), ("FULL_RANGE_ONLY_TICK_SPACING_THRESHOLD", (FULL_RANGE_ONLY_TICK_SPACING_THRESHOLD : Int)),
      ("FEE_RATE_HARD_LIMIT", (FEE_RATE_HARD_LIMIT : Int)), ("MAX_REFERENCE_AGE", (MAX_REFERENCE_AGE : Int)),
      ("VOLATILITY_ACCUMULATOR_SCALE_FACTOR", (VOLATILITY_ACCUMULATOR_SCALE_FACTOR : Int)),
      ("REDUCTION_FACTOR_DENOMINATOR", (REDUCTION_FACTOR_DENOMINATOR : Int)),
      ("ADAPTIVE_FEE_CONTROL_FACTOR_DENOMINATOR", (ADAPTIVE_FEE_CONTROL_FACTOR_DENOMINATOR : Int))] := by
  decide +kernel

theorem consts : TWO256 = 115792089237316195423570985008687907853269984665640564039457584007913129639936 ∧
    TWO128 = 340282366920938463463374607431768211456 ∧ TWO64 = 18446744073709551616 ∧
    U128_MAX = 340282366920938463463374607431768211455 ∧ U64_MAX = 18446744073709551615 :=
  ⟨two256_val, two128_val, two64_val, u128max_val, u64max_val⟩

/-- the repaired shift check is the program's `checked_shift_word_left` condition -/
theorem shl_cond (v : Nat) : (v > U256_MAX / TWO64) ↔ (v ≥ TWO128 * TWO64) := by
  have h : U256_MAX / TWO64 + 1 = TWO128 * TWO64 := by decide +kernel
  generalize TWO128 * TWO64 = X at *
  generalize U256_MAX / TWO64 = Y at *
  omega

theorem sdkDeltaAX_eq (p0 p1 L : Nat) (up : Bool) :
    sdkDeltaAX p0 p1 L up =
      if L * (hi' p0 p1 - lo' p0 p1) ≥ TWO128 * TWO64 then .error .Other
      else if hi' p0 p1 * lo' p0 p1 = 0 then .error .Panic
      else .ok (if roundA L (lo' p0 p1) (hi' p0 p1) up > U64_MAX then none else some (roundA L (lo' p0 p1) (hi' p0 p1) up)) := by
  unfold sdkDeltaAX sdkShl64 lo' hi' roundA aNum aDen
  simp only [shl_cond, Nat.mul_comm (incOrder p0 p1).1]
  by_cases hs : L * ((incOrder p0 p1).2 - (incOrder p0 p1).1) ≥ TWO128 * TWO64
  · simp only [hs, if_true]
  · simp only [hs, if_false]
    by_cases hd : (incOrder p0 p1).2 * (incOrder p0 p1).1 = 0
    · simp only [hd, if_true]
    · simp only [hd, if_false]
      rw [roundUpIf_ne_eq _ _ up (by omega)]
      exact (apply_ite Except.ok _ _ _).symm

theorem sdkDeltaBX_eq (p0 p1 L : Nat) (up : Bool) :
    sdkDeltaBX p0 p1 L up =
      .ok (if roundB L (lo' p0 p1) (hi' p0 p1) up > U64_MAX then none else some (roundB L (lo' p0 p1) (hi' p0 p1) up)) := by
  unfold sdkDeltaBX lo' hi' roundB bNum
  simp only []
  rw [roundUpIf_eq _ _ up two64_pos]
  exact (apply_ite Except.ok _ _ _).symm

theorem sdkDeltaA_eq_unwrapX (p0 p1 liq : Nat) (up : Bool) : sdkDeltaA p0 p1 liq up = unwrapX (sdkDeltaAX p0 p1 liq up) := by
  unfold sdkDeltaA sdkDeltaAX
  simp only []
  cases sdkShl64 (liq * ((incOrder p0 p1).2 - (incOrder p0 p1).1)) with
  | error e => rfl
  | ok num =>
    simp only [apply_ite unwrapX]
    rfl

theorem sdkDeltaB_eq_unwrapX (p0 p1 liq : Nat) (up : Bool) : sdkDeltaB p0 p1 liq up = unwrapX (sdkDeltaBX p0 p1 liq up) := by
  unfold sdkDeltaB sdkDeltaBX
  simp only [apply_ite unwrapX]
  rfl

/-- the SDK's single test against `u64::MAX` lets through what the program's classification does -/
theorem unwrap_classify (r : Nat) (e : Err) :
    (unwrapX (.ok (if r > U64_MAX then none else some r))).toOption = (unwrapDelta (.ok (classify r e))).toOption := by
  unfold classify
  split <;> rfl

set_option linter.unusedVariables false in
/-- **token A for liquidity**: the SDK returns exactly the program's value when the program returns
    one, and fails on every input on which the program fails (overflow of the shift, result beyond
    u64) -/
theorem sdk_delta_a_eq (p0 p1 liq : Nat) (up : Bool) (h0 : p0 ≤ U128_MAX) (h1 : p1 ≤ U128_MAX) (hl : liq ≤ U128_MAX) :
    (sdkDeltaA p0 p1 liq up).toOption = (getAmountDeltaA p0 p1 liq up).toOption := by
  rw [sdkDeltaA_eq_unwrapX, sdkDeltaAX_eq, getAmountDeltaA, tryDeltaA_eq]
  by_cases hs : liq * (hi' p0 p1 - lo' p0 p1) ≥ TWO128 * TWO64
  · rw [if_pos hs, if_pos hs]; rfl
  · rw [if_neg hs, if_neg hs]
    by_cases hd : hi' p0 p1 * lo' p0 p1 = 0
    · rw [if_pos hd, if_pos hd]; rfl
    · rw [if_neg hd, if_neg hd]; exact unwrap_classify _ _

/-- **token B for liquidity**: same value when the program returns one, failure whenever the program fails -/
theorem sdk_delta_b_eq (p0 p1 liq : Nat) (up : Bool) :
    (sdkDeltaB p0 p1 liq up).toOption = (getAmountDeltaB p0 p1 liq up).toOption := by
  rw [sdkDeltaB_eq_unwrapX, sdkDeltaBX_eq, getAmountDeltaB, tryDeltaB_eq]
  exact unwrap_classify _ _

/-- **slippage**: the quoted maximum is at least and the quoted minimum at most the estimate, and
    they are exactly ⌈estimate × (10000 + bps) / 10000⌉ and ⌊estimate × (10000 − bps) / 10000⌋ -/
theorem slippage_safe (amount bps v : Nat) :
    (sdkMaxSlip amount bps = .ok v → amount ≤ v ∧ v * 10000 ≥ amount * (10000 + bps) ∧ (v - 1) * 10000 < amount * (10000 + bps) + 10000) ∧
    (sdkMinSlip amount bps = .ok v → v ≤ amount ∧ v * 10000 ≤ amount * (10000 - bps)) := by
  constructor
  · intro h
    unfold sdkMaxSlip at h
    by_cases hb : bps > 10000
    · rw [if_pos hb] at h; cases h
    · rw [if_neg hb] at h
      simp only [] at h
      rw [roundUp_eq_cdiv _ _ (by omega), Nat.mul_comm] at h
      by_cases h64 : cdiv (amount * (10000 + bps)) 10000 > U64_MAX
      · rw [if_pos h64] at h; cases h
      · rw [if_neg h64] at h
        cases h
        -- v = ⌈amount·(10000 + bps) / 10000⌉
        have h1 := le_cdiv_mul (n := amount * (10000 + bps)) (d := 10000) (by omega)
        have h2 := cdiv_le_floor_succ (amount * (10000 + bps)) 10000 (by omega)
        have h3 := Nat.div_mul_le_self (amount * (10000 + bps)) 10000
        have e : amount * (10000 + bps) = amount * 10000 + amount * bps := Nat.mul_add _ _ _
        generalize cdiv (amount * (10000 + bps)) 10000 = v at *
        generalize amount * (10000 + bps) / 10000 = q at *
        omega
  · intro h
    unfold sdkMinSlip at h
    by_cases hb : bps > 10000
    · rw [if_pos hb] at h; cases h
    · rw [if_neg hb] at h
      cases h
      rw [Nat.mul_comm]
      have h1 := Nat.div_mul_le_self (amount * (10000 - bps)) 10000
      have e2 : amount * (10000 - bps) ≤ amount * 10000 := Nat.mul_le_mul_left _ (by omega)
      generalize amount * (10000 - bps) / 10000 = q at *
      omega
/-- the SDK tests a computed price against the protocol bounds only; these lie inside a u128 -/
theorem sdk_check (n : Nat) :
    (if n < MIN_SQRT_PRICE_X64 || n > MAX_SQRT_PRICE_X64 then (.error .Other : R Nat) else .ok n).toOption =
      (checkPrice n).toOption := by
  have hmax : MIN_SQRT_PRICE_X64 ≤ MAX_SQRT_PRICE_X64 ∧ MAX_SQRT_PRICE_X64 ≤ U128_MAX := by decide
  unfold checkPrice
  by_cases c1 : n < MIN_SQRT_PRICE_X64
  · rw [if_pos (by simp [c1]), if_pos (by omega), if_pos c1]; rfl
  · by_cases c2 : n > MAX_SQRT_PRICE_X64
    · rw [if_pos (by simp [c2])]
      split <;> rfl
    · rw [if_neg (by simp [c1, c2]), if_pos (by omega), if_neg c1, if_neg c2]

/-- the SDK's division step (`res` is its rounded quotient) is the program's checked ⌈num / den⌉ -/
theorem sdk_quot_check (num den res : Nat) (hres : res = if num % den ≠ 0 then num / den + 1 else num / den) :
    (if den = 0 then (.error .Panic : R Nat)
      else if res < MIN_SQRT_PRICE_X64 || res > MAX_SQRT_PRICE_X64 then .error .Other else .ok res).toOption =
      (if den = 0 then .error .Panic else checkPrice (cdiv num den)).toOption := by
  by_cases hd : den = 0
  · rw [if_pos hd, if_pos hd]
  · rw [if_neg hd, if_neg hd, hres, roundUp_ne_eq_cdiv _ _ (by omega)]
    exact sdk_check _

/-- **next price from token A** (exact-in and exact-out): the SDK returns exactly the program's value when
    the program returns one, and fails on every input on which the program fails -/
theorem sdk_next_a_eq (p liq amount : Nat) (i : Bool) (hp : p ≤ U128_MAX) (hl : liq ≤ U128_MAX) (ha : amount ≤ U64_MAX) :
    (sdkNextFromA p liq amount i).toOption = (getNextSqrtPriceFromARoundUp p liq amount i).toOption := by
  by_cases h0 : amount = 0
  · unfold sdkNextFromA getNextSqrtPriceFromARoundUp
    rw [if_pos h0, if_pos h0]
  · rw [nspA_eq p liq amount i h0 hp hl ha]
    unfold sdkNextFromA sdkShl64
    simp only [h0, if_false, shl_cond]
    by_cases hs : liq * p ≥ TWO128 * TWO64
    · simp only [hs, if_true]; rfl
    · simp only [hs, if_false]
      cases i with
      | true =>
        simp only [Bool.not_true, Bool.false_and, Bool.false_eq_true, if_false, if_true]
        exact sdk_quot_check _ _ _ rfl
      | false =>
        simp only [Bool.not_false, Bool.true_and, Bool.false_eq_true, if_false, decide_eq_true_eq]
        have c := C02.two256_val; have c64 := C02.two64_val; have c128 := C02.u128max_val; have cu := C02.u64max_val
        have hprod : p * amount ≤ 340282366920938463463374607431768211455 * 18446744073709551615 :=
          Nat.mul_le_mul (c128 ▸ hp) (cu ▸ ha)
        have hshl : liq * TWO64 ≤ 340282366920938463463374607431768211455 * 18446744073709551616 :=
          Nat.mul_le_mul (c128 ▸ hl) (Nat.le_of_eq c64)
        by_cases hle : liq * TWO64 ≤ p * amount
        · rw [if_pos hle]
          -- the program refuses; the SDK's wrapped denominator is 0, or so large that the quotient is at most 1
          by_cases heq : liq * TWO64 = p * amount
          · rw [heq, Nat.add_sub_cancel_left, Nat.mod_self, if_pos rfl]
            rfl
          · rw [Nat.mod_eq_of_lt (by omega), if_neg (by omega)]
            have hnum := shl64_lt hs
            have hq : liq * p * TWO64 / (liq * TWO64 + TWO256 - p * amount) ≤ 1 :=
              Nat.le_of_lt_succ ((Nat.div_lt_iff_lt_mul (by omega)).mpr (by omega))
            have hmin : 2 < MIN_SQRT_PRICE_X64 := by decide
            rw [if_pos (by simp only [Bool.or_eq_true, decide_eq_true_eq]; left; split <;> omega)]
            rfl
        · rw [if_neg hle, wrapping_sub_eq _ _ _ (by omega) (by omega)]
          exact sdk_quot_check _ _ _ rfl

/-- the SDK's bounds test on `n` beside a program that returns `r` exactly when `c` holds: they agree as soon as
    `n` is `r` under `c` and an `n` inside the bounds forces `c` -/
theorem sdk_bounds_vs (n r v : Nat) (c : Prop) [Decidable c] (e : Err) (hr : c → n = r) (hc : n ≤ MAX_SQRT_PRICE_X64 → c) :
    ((if n < MIN_SQRT_PRICE_X64 || n > MAX_SQRT_PRICE_X64 then (.error .Other : R Nat) else .ok n) = .ok v →
      (if c then .ok r else .error e : R Nat) = .ok v) ∧
    ((if c then .ok r else .error e : R Nat) = .ok v → MIN_SQRT_PRICE_X64 ≤ v → v ≤ MAX_SQRT_PRICE_X64 →
      (if n < MIN_SQRT_PRICE_X64 || n > MAX_SQRT_PRICE_X64 then (.error .Other : R Nat) else .ok n) = .ok v) := by
  constructor
  · intro h
    split at h
    · cases h
    · rename_i hb
      cases h
      simp only [Bool.or_eq_true, decide_eq_true_eq, not_or, Nat.not_lt] at hb
      rw [if_pos (hc hb.2), ← hr (hc hb.2)]
  · intro h h1 h2
    split at h
    · rename_i hcc
      cases h
      rw [hr hcc, if_neg (by simp only [Bool.or_eq_true, decide_eq_true_eq]; omega)]
    · cases h

set_option linter.unusedVariables false in
/-- **next price from token B**: whatever the SDK returns is the program's value; and every value the program
    returns inside the protocol price bounds (the only ones a swap step can use) the SDK returns as well -/
theorem sdk_next_b_eq (p liq amount : Nat) (i : Bool) (v : Nat) (hl0 : 0 < liq) (hp : p ≤ U128_MAX) (hl : liq ≤ U128_MAX)
    (ha : amount ≤ U64_MAX) :
    (sdkNextFromB p liq amount i = .ok v → getNextSqrtPriceFromBRoundDown p liq amount i = .ok v) ∧
    (getNextSqrtPriceFromBRoundDown p liq amount i = .ok v → MIN_SQRT_PRICE_X64 ≤ v → v ≤ MAX_SQRT_PRICE_X64 →
      sdkNextFromB p liq amount i = .ok v) := by
  have hmax := maxPrice_le_u128
  have c := two256_val; have c64 := two64_val; have c128 := u128max_val; have cu := u64max_val
  have hliq : liq ≠ 0 := by omega
  rw [nspB_eq p liq amount i hliq]
  unfold sdkNextFromB
  rw [if_neg hliq]
  by_cases h0 : amount = 0
  · -- nothing to trade: both return `p`
    rw [if_pos h0, h0, Nat.zero_mul, Nat.zero_div, cdiv_zero _ hl0, Nat.add_zero, Nat.sub_zero, if_pos hp, if_pos (Nat.zero_le _),
      ite_self]
    exact ⟨fun h => h, fun h _ _ => h⟩
  · rw [if_neg h0]
    simp only []
    rw [roundUpIf_ne_eq _ _ _ hl0]
    cases i with
    | true =>
      simp only [Bool.not_true, Bool.false_eq_true, if_false, if_true]
      exact sdk_bounds_vs _ _ v _ _ (fun _ => rfl) (fun h => by omega)
    | false =>
      simp only [Bool.not_false, Bool.false_eq_true, if_false, if_true]
      have hsh : amount * TWO64 ≤ 18446744073709551615 * 18446744073709551616 := Nat.mul_le_mul (cu ▸ ha) (Nat.le_of_eq c64)
      have hq : amount * TWO64 / liq ≤ amount * TWO64 := Nat.div_le_self _ _
      have hc : cdiv (amount * TWO64) liq ≤ amount * TWO64 / liq + 1 := cdiv_le_floor_succ _ _ hl0
      generalize cdiv (amount * TWO64) liq = d at *
      refine sdk_bounds_vs _ _ v _ _ (fun hdp => wrapping_sub_eq _ _ _ hdp (by omega)) (fun h => ?_)
      -- were `d` above `p`, the SDK's subtraction would wrap to a value far above the maximum price
      by_contra hdp
      rw [Nat.mod_eq_of_lt (by omega)] at h
      omega

end WP.C20
