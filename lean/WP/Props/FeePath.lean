import WP.Props.PathBase
/-
  The fee-rate manager (`fee_rate_manager.rs`; model: WP/Model/FeeRate.lean) along one swap: what stays fixed
  (`MgrOK`: direction, group size, the cached group boundaries are prices of in-bounds ticks), what moves with
  the price (`GroupOK`: the tick-group index never lags behind the current tick; `VarOK`: accumulators capped,
  reference group within the protocol bounds), and that each of the manager's operations keeps them
  (bounded target, advance, advance after a skip, reference update, major-swap timestamp).
-/
namespace WP.Path
open WP WP.Gen WP.C05 WP.C10

theorem clamp_bounds (x : Int) : MIN_TICK_INDEX ≤ clampTick x ∧ clampTick x ≤ MAX_TICK_INDEX := by
  unfold clampTick
  have := min_le_max
  omega

theorem clamp_le_of_le {x t : Int} (hx : x ≤ t) (ht : MIN_TICK_INDEX ≤ t) : clampTick x ≤ t := by
  unfold clampTick; omega

theorem le_clamp_of_le {x t : Int} (hx : t ≤ x) (ht : t ≤ MAX_TICK_INDEX) : t ≤ clampTick x := by
  unfold clampTick; omega

theorem group_bounds (t g : Int) (hg : 0 < g) : t / g * g ≤ t ∧ t < t / g * g + g := by
  have hm := Int.emod_lt_of_pos t hg
  have hd := Int.mul_ediv_add_emod t g
  rw [Int.mul_comm] at hd
  exact ⟨Int.ediv_mul_le t (Int.ne_of_gt hg), by omega⟩

/-- the parts of an adaptive manager that never change during a swap, and what they must satisfy -/
structure MgrOK (d : Bool) (m : AdaptiveMgr) : Prop where
  dir : m.aToB = d
  gs : 0 < m.c.groupSize
  lb : ∀ li lp, m.lowerBound = some (li, lp) →
    lp = sp (li * (m.c.groupSize : Int)) ∧ MIN_TICK_INDEX ≤ li * (m.c.groupSize : Int) ∧ li * (m.c.groupSize : Int) ≤ MAX_TICK_INDEX
  ub : ∀ ui up, m.upperBound = some (ui, up) →
    up = sp (ui * (m.c.groupSize : Int) + m.c.groupSize) ∧ MIN_TICK_INDEX ≤ ui * (m.c.groupSize : Int) + m.c.groupSize ∧
      ui * (m.c.groupSize : Int) + m.c.groupSize ≤ MAX_TICK_INDEX

/-- the tick-group index never lags behind the current tick (in swap direction) -/
def GroupOK (d : Bool) (m : AdaptiveMgr) (tick : Int) : Prop :=
  if d then MIN_TICK_INDEX ≤ tick → m.groupIndex * (m.c.groupSize : Int) ≤ tick
  else tick < m.groupIndex * (m.c.groupSize : Int) + m.c.groupSize

theorem groupOK_true (m : AdaptiveMgr) (tick : Int) :
    GroupOK true m tick = (MIN_TICK_INDEX ≤ tick → m.groupIndex * (m.c.groupSize : Int) ≤ tick) := if_pos rfl

theorem groupOK_false (m : AdaptiveMgr) (tick : Int) :
    GroupOK false m tick = (tick < m.groupIndex * (m.c.groupSize : Int) + m.c.groupSize) := if_neg Bool.false_ne_true

/-- `GroupOK` only reads the group index and the constants.  Used with `m` given explicitly and never by
    conversion: comparing `m` with `{ m with v := m.v.updateVolAcc .. }` field by field, the kernel
    unfolds the multiplication by the literal 10000 inside `updateVolAcc` -/
theorem groupOK_congr {d : Bool} {m m2 : AdaptiveMgr} {tick : Int} (e1 : m2.groupIndex = m.groupIndex) (e2 : m2.c = m.c)
    (g : GroupOK d m tick) : GroupOK d m2 tick := by
  unfold GroupOK at g ⊢
  rw [e1, e2]
  exact g

/-- the adaptive-fee variables stay inside their ranges: accumulators capped, the reference group
    index is the group of some tick inside (one below) the protocol bounds -/
def VarOK (c : AfConstants) (v : AfVariables) : Prop :=
  v.volRef ≤ c.maxVolAcc ∧ v.volAcc ≤ c.maxVolAcc ∧
  MIN_TICK_INDEX ≤ v.groupIndexRef * (c.groupSize : Int) + c.groupSize ∧ v.groupIndexRef * (c.groupSize : Int) ≤ MAX_TICK_INDEX

theorem varOK_updateVolAcc (c : AfConstants) (v : AfVariables) (g : Int) (h : VarOK c v) : VarOK c (v.updateVolAcc g c) := by
  unfold AfVariables.updateVolAcc
  exact ⟨h.1, Nat.min_le_right _ _, h.2.2.1, h.2.2.2⟩

def FmOK (d : Bool) (tick : Int) : FeeMgr → Prop
  | .static r => r ≤ FEE_RATE_HARD_LIMIT
  | .adaptive m => MgrOK d m ∧ GroupOK d m tick ∧ VarOK m.c m.v

theorem rate_ok (d : Bool) (tick : Int) (fm : FeeMgr) (h : FmOK d tick fm) : fm.updateVolAcc.totalFeeRate ≤ FEE_RATE_HARD_LIMIT := by
  cases fm with
  | static r => exact h
  | adaptive m =>
    unfold FeeMgr.updateVolAcc FeeMgr.totalFeeRate
    dsimp only
    split
    · exact Nat.le_refl _
    · exact Nat.le_of_not_lt ‹_›

theorem fmOK_of (d : Bool) (tick' : Int) (m m2 : AdaptiveMgr) (ok : MgrOK d m) (hv : VarOK m.c m.v)
    (e1 : m2.aToB = m.aToB) (e2 : m2.c = m.c) (e3 : m2.lowerBound = m.lowerBound) (e4 : m2.upperBound = m.upperBound)
    (e5 : m2.v = m.v ∨ ∃ g, m2.v = m.v.updateVolAcc g m.c) (hg : GroupOK d m2 tick') : FmOK d tick' (.adaptive m2) := by
  refine ⟨{ dir := by rw [e1]; exact ok.dir, gs := by rw [e2]; exact ok.gs,
            lb := by rw [e2, e3]; exact ok.lb, ub := by rw [e2, e4]; exact ok.ub }, hg, ?_⟩
  rw [e2]
  rcases e5 with e | ⟨g, e⟩
  · rw [e]; exact hv
  · rw [e]; exact varOK_updateVolAcc _ _ _ hv

/-- the four outcomes of `get_bounded_sqrt_price_target` for an adaptive manager: no bound (fee
    control off, no liquidity, or the group already beyond the reachable range on the far side);
    clipped at the price of the end of that range on the near side; or bounded by the end of the
    current tick group: the only outcome after which the group is not skipped -/
theorem boundedTarget_cases (m : AdaptiveMgr) (tgt liq : Nat) (r : Nat × Bool)
    (h : (FeeMgr.adaptive m).boundedTarget tgt liq = r) :
    r = (tgt, true) ∨
    (m.aToB = false ∧ ∃ li lp, m.lowerBound = some (li, lp) ∧ m.groupIndex < li ∧ r = (min tgt lp, true)) ∨
    (m.aToB = true ∧ ∃ ui up, m.upperBound = some (ui, up) ∧ m.groupIndex > ui ∧ r = (max tgt up, true)) ∨
    r = (if m.aToB then max tgt (sp (clampTick (m.groupIndex * (m.c.groupSize : Int))))
         else min tgt (sp (clampTick (m.groupIndex * (m.c.groupSize : Int) + m.c.groupSize))), false) := by
  unfold FeeMgr.boundedTarget at h
  dsimp only at h
  by_cases c1 : m.c.controlFactor = 0
  · rw [if_pos c1] at h; exact Or.inl h.symm
  rw [if_neg c1] at h
  by_cases c2 : liq = 0
  · rw [if_pos c2] at h; exact Or.inl h.symm
  rw [if_neg c2] at h
  split at h
  · rename_i r' hr
    split at hr
    · rename_i li lp hl
      by_cases hlt : m.groupIndex < li
      · rw [if_pos hlt] at hr
        cases hr
        cases hd : m.aToB with
        | true => rw [hd] at h; exact Or.inl h.symm
        | false => rw [hd] at h; exact Or.inr (Or.inl ⟨rfl, li, lp, hl, hlt, h.symm⟩)
      · rw [if_neg hlt] at hr; cases hr
    · cases hr
  · split at h
    · rename_i r' hr
      split at hr
      · rename_i ui up hu
        by_cases hgt : m.groupIndex > ui
        · rw [if_pos hgt] at hr
          cases hr
          cases hd : m.aToB with
          | true => rw [hd] at h; exact Or.inr (Or.inr (Or.inl ⟨rfl, ui, up, hu, hgt, h.symm⟩))
          | false => rw [hd] at h; exact Or.inl h.symm
        · rw [if_neg hgt] at hr; cases hr
      · cases hr
    · refine Or.inr (Or.inr (Or.inr ?_))
      rw [← h]
      cases m.aToB <;> rfl

theorem bounded_down (m : AdaptiveMgr) (tick : Int) (price tgt liq : Nat) (ok : MgrOK true m) (g : GroupOK true m tick)
    (h1 : MIN_TICK_INDEX ≤ tick) (h2 : tick ≤ MAX_TICK_INDEX) (h3 : sp tick ≤ price) (ht : tgt ≤ price) :
    tgt ≤ ((FeeMgr.adaptive m).boundedTarget tgt liq).1 ∧ ((FeeMgr.adaptive m).boundedTarget tgt liq).1 ≤ price ∧
    (((FeeMgr.adaptive m).boundedTarget tgt liq).2 = false →
      sp (clampTick (m.groupIndex * (m.c.groupSize : Int))) ≤ ((FeeMgr.adaptive m).boundedTarget tgt liq).1) := by
  have hg : m.groupIndex * (m.c.groupSize : Int) ≤ tick := (groupOK_true m tick ▸ g) h1
  rcases boundedTarget_cases m tgt liq _ rfl with e | ⟨hd, _⟩ | ⟨_, ui, up, hu, hgt, e⟩ | e
  · rw [e]; exact ⟨Nat.le_refl _, ht, fun h => Bool.noConfusion h⟩
  · rw [ok.dir] at hd; cases hd
  · -- the upper end of the reachable range lies at or below the current group, hence the tick
    obtain ⟨e1, e2, _⟩ := ok.ub ui up hu
    have hmul : (ui + 1) * (m.c.groupSize : Int) ≤ m.groupIndex * (m.c.groupSize : Int) :=
      Int.mul_le_mul_of_nonneg_right hgt (Int.natCast_nonneg _)
    rw [Int.add_mul, Int.one_mul] at hmul
    have := C09.sp_le _ tick e2 (Int.le_trans hmul hg) h2
    rw [e, e1]
    exact ⟨Nat.le_max_left _ _, Nat.max_le.mpr ⟨ht, Nat.le_trans this h3⟩, fun h => Bool.noConfusion h⟩
  · rw [e, ok.dir, if_pos rfl]
    have := C09.sp_le _ tick (clamp_bounds _).1 (clamp_le_of_le hg h1) h2
    exact ⟨Nat.le_max_left _ _, Nat.max_le.mpr ⟨ht, Nat.le_trans this h3⟩, fun _ => Nat.le_max_right _ _⟩

theorem bounded_up (m : AdaptiveMgr) (tick : Int) (price tgt liq : Nat) (ok : MgrOK false m) (g : GroupOK false m tick)
    (h1 : MIN_TICK_INDEX - 1 ≤ tick) (h2 : tick < MAX_TICK_INDEX) (h3 : price ≤ sp (tick + 1)) (ht : price ≤ tgt) :
    price ≤ ((FeeMgr.adaptive m).boundedTarget tgt liq).1 ∧ ((FeeMgr.adaptive m).boundedTarget tgt liq).1 ≤ tgt ∧
    (((FeeMgr.adaptive m).boundedTarget tgt liq).2 = false →
      ((FeeMgr.adaptive m).boundedTarget tgt liq).1 ≤ sp (clampTick (m.groupIndex * (m.c.groupSize : Int) + m.c.groupSize))) := by
  have hg : tick < m.groupIndex * (m.c.groupSize : Int) + m.c.groupSize := groupOK_false m tick ▸ g
  rcases boundedTarget_cases m tgt liq _ rfl with e | ⟨_, li, lp, hl, hlt, e⟩ | ⟨hd, _⟩ | e
  · rw [e]; exact ⟨ht, Nat.le_refl _, fun h => Bool.noConfusion h⟩
  · -- the lower end of the reachable range lies at or above the end of the current group, beyond the tick
    obtain ⟨e1, _, e3⟩ := ok.lb li lp hl
    have hmul : (m.groupIndex + 1) * (m.c.groupSize : Int) ≤ li * (m.c.groupSize : Int) :=
      Int.mul_le_mul_of_nonneg_right hlt (Int.natCast_nonneg _)
    rw [Int.add_mul, Int.one_mul] at hmul
    have := C09.sp_le (tick + 1) _ (by omega) (Int.le_trans hg hmul) e3
    rw [e, e1]
    exact ⟨Nat.le_min.mpr ⟨ht, Nat.le_trans h3 this⟩, Nat.min_le_left _ _, fun h => Bool.noConfusion h⟩
  · rw [ok.dir] at hd; cases hd
  · rw [e, ok.dir, if_neg Bool.false_ne_true]
    have := C09.sp_le (tick + 1) _ (by omega) (le_clamp_of_le hg h2) (clamp_bounds _).2
    exact ⟨Nat.le_min.mpr ⟨ht, Nat.le_trans h3 this⟩, Nat.min_le_left _ _, fun _ => Nat.min_le_right _ _⟩

/-- `advanceAfterSkip` changes only the group index and the variables; the new index is past the
    group of the tick the step ended on -/
theorem afterSkip_spec (m : AdaptiveMgr) (p' np : Nat) (nti : Int) (fm' : FeeMgr)
    (h : (FeeMgr.adaptive m).advanceAfterSkip p' np nti = .ok fm') :
    ∃ m2 : AdaptiveMgr, fm' = .adaptive m2 ∧ m2.aToB = m.aToB ∧ m2.c = m.c ∧ m2.lowerBound = m.lowerBound ∧
      m2.upperBound = m.upperBound ∧
      (m.aToB = true → m2.groupIndex ≤ (if p' = np then nti else ti p') / (m.c.groupSize : Int) - 1) ∧
      (m.aToB = false → (if p' = np then nti else ti p') / (m.c.groupSize : Int) ≤ m2.groupIndex) ∧
      (m2.v = m.v ∨ ∃ g, m2.v = m.v.updateVolAcc g m.c) := by
  unfold FeeMgr.advanceAfterSkip at h
  dsimp only at h
  generalize hq : (if p' = np then (nti, decide (nti % (m.c.groupSize : Int) = 0))
      else (ti p', decide (ti p' % (m.c.groupSize : Int) = 0) && decide (p' = sp (ti p')))) = q at h
  have hq1 : q.1 = (if p' = np then nti else ti p') := by
    rw [← hq]; split <;> rfl
  rw [← hq1]
  obtain ⟨T, ob⟩ := q
  dsimp only at h ⊢
  -- `last`, the group of the end tick (one less on a group boundary, b→a)
  generalize hl : (if (ob && !m.aToB) = true then T / (m.c.groupSize : Int) - 1 else T / (m.c.groupSize : Int)) = last at h
  have hl1 : m.aToB = true → last = T / (m.c.groupSize : Int) := fun ha => by
    rw [← hl, ha, Bool.not_true, Bool.and_false, if_neg Bool.false_ne_true]
  have hl2 : T / (m.c.groupSize : Int) - 1 ≤ last := by rw [← hl]; split <;> omega
  cases h
  -- the index moves to `last` if that is ahead in swap direction, then one group further
  by_cases hc : ((m.aToB && decide (last < m.groupIndex)) || (!m.aToB && decide (last > m.groupIndex))) = true
  · rw [if_pos hc]
    refine ⟨_, rfl, rfl, rfl, rfl, rfl, fun ha => ?_, fun ha => ?_, Or.inr ⟨_, rfl⟩⟩
    · show last + (if m.aToB = true then -1 else 1) ≤ _
      rw [if_pos ha, hl1 ha]; omega
    · show _ ≤ last + (if m.aToB = true then -1 else 1)
      rw [if_neg (ha ▸ Bool.false_ne_true)]; omega
  · rw [if_neg hc]
    refine ⟨_, rfl, rfl, rfl, rfl, rfl, fun ha => ?_, fun ha => ?_, Or.inl rfl⟩
    · show m.groupIndex + (if m.aToB = true then -1 else 1) ≤ _
      rw [ha] at hc
      simp only [Bool.true_and, Bool.not_true, Bool.false_and, Bool.or_false, decide_eq_true_eq] at hc
      rw [if_pos ha, ← hl1 ha]; omega
    · show _ ≤ m.groupIndex + (if m.aToB = true then -1 else 1)
      rw [ha] at hc
      simp only [Bool.false_and, Bool.not_false, Bool.true_and, Bool.false_or, decide_eq_true_eq] at hc
      rw [if_neg (ha ▸ Bool.false_ne_true)]; omega

/-- where the tick index is after a step, in the three cases of `stepCross_spec` -/
def StepEnd (d : Bool) (tick tick' nti : Int) (price p' : Nat) : Prop :=
  (p' = sp nti ∧ tick' = (if d then nti - 1 else nti) ∧ MIN_TICK_INDEX ≤ nti ∧ nti ≤ MAX_TICK_INDEX) ∨
  (p' ≠ sp nti ∧ p' ≠ price ∧ tick' = ti p') ∨ (p' ≠ sp nti ∧ p' = price ∧ tick' = tick)

theorem TP_ti_near (t : Int) (p : Nat) (tp : TP t p) : t ≤ ti p ∧ ti p ≤ t + 1 := by
  have hr := TP_range t p tp
  have hpb := TP_price_bounds t p tp
  have hs := C09.ti_spec p hpb.1 hpb.2
  constructor
  · by_cases hm : MIN_TICK_INDEX ≤ t
    · exact ti_ge p t hpb.1 hpb.2 hr.2 (TP_le_of_le t t p tp hm (Int.le_refl _))
    · omega
  · rcases Int.lt_or_eq_of_le hr.2 with hm | hm
    · exact ti_le p (t + 1) hpb.1 hpb.2 (by omega) (TP_le_of_lt t _ p tp (by omega) (by omega))
    · omega

/-- in each case of `StepEnd` the tick that `advanceAfterSkip` works with is the tick of the new price,
    and the new tick index is that tick or one below it -/
theorem stepEnd_ti (d : Bool) (tick tick' nti : Int) (price p' : Nat) (tp : TP tick price)
    (hend : StepEnd d tick tick' nti price p') :
    (if p' = sp nti then nti else ti p') = ti p' ∧ ti p' - 1 ≤ tick' ∧ tick' ≤ ti p' := by
  rcases hend with ⟨e1, e2, e3, e4⟩ | ⟨e1, _, e2⟩ | ⟨e1, e3, e2⟩
  · rw [if_pos e1, e1, C09.ti_sp nti e3 e4, e2]
    refine ⟨rfl, ?_⟩
    split <;> omega
  · rw [if_neg e1, e2]
    exact ⟨rfl, by omega, Int.le_refl _⟩
  · rw [if_neg e1, e3, e2]
    have := TP_ti_near tick price tp
    exact ⟨rfl, by omega, this.1⟩

/-- a group index strictly past the group of `T` (in swap direction) does not lag behind a tick index
    that is `T` or one below it -/
theorem groupOK_of_past {d : Bool} {m : AdaptiveMgr} {tick T : Int} (hgs : 0 < m.c.groupSize)
    (t1 : T - 1 ≤ tick) (t2 : tick ≤ T) (hd : d = true → m.groupIndex ≤ T / (m.c.groupSize : Int) - 1)
    (hu : d = false → T / (m.c.groupSize : Int) ≤ m.groupIndex) : GroupOK d m tick := by
  have hgsI : (0 : Int) < m.c.groupSize := Int.natCast_pos.mpr hgs
  obtain ⟨g1, g2⟩ := group_bounds T _ hgsI
  cases d with
  | true =>
    have hmul := Int.mul_le_mul_of_nonneg_right (hd rfl) (Int.le_of_lt hgsI)
    rw [Int.sub_mul, Int.one_mul] at hmul
    rw [groupOK_true]
    intro _
    omega
  | false =>
    have hmul := Int.mul_le_mul_of_nonneg_right (hu rfl) (Int.le_of_lt hgsI)
    rw [groupOK_false]
    omega

theorem fmOK_afterSkip (d : Bool) (m : AdaptiveMgr) (fm' : FeeMgr) (tick tick' nti : Int) (price p' : Nat)
    (ok : MgrOK d m) (hv : VarOK m.c m.v) (tp : TP tick price) (hend : StepEnd d tick tick' nti price p')
    (h : (FeeMgr.adaptive m).advanceAfterSkip p' (sp nti) nti = .ok fm') : FmOK d tick' fm' := by
  obtain ⟨eT, t1, t2⟩ := stepEnd_ti d tick tick' nti price p' tp hend
  obtain ⟨m2, e, a1, a2, a3, a4, a5, a6, a7⟩ := afterSkip_spec m p' (sp nti) nti fm' h
  rw [eT, ← a2, ok.dir] at a5 a6
  rw [e]
  exact fmOK_of d tick' m m2 ok hv a1 a2 a3 a4 a7 (groupOK_of_past (a2 ▸ ok.gs) t1 t2 a5 a6)

theorem fm_after_down (m : AdaptiveMgr) (fm' : FeeMgr) (tick tick' nti : Int) (price p' : Nat)
    (ok : MgrOK true m) (g : GroupOK true m tick) (hv : VarOK m.c m.v) (tp : TP tick price) (hmin : MIN_TICK_INDEX ≤ tick)
    (hp1 : MIN_SQRT_PRICE_X64 ≤ p') (hp2 : p' ≤ MAX_SQRT_PRICE_X64)
    (hend : StepEnd true tick tick' nti price p')
    (hfm : (sp (clampTick (m.groupIndex * (m.c.groupSize : Int))) ≤ p' ∧ fm' = (FeeMgr.adaptive m).advance) ∨
           (FeeMgr.adaptive m).advanceAfterSkip p' (sp nti) nti = .ok fm') :
    FmOK true tick' fm' := by
  rcases hfm with ⟨hbp, e⟩ | hskip
  · obtain ⟨_, t1, t2⟩ := stepEnd_ti true tick tick' nti price p' tp hend
    rw [e]
    refine fmOK_of true tick' m _ ok hv rfl rfl rfl rfl (Or.inl rfl)
      (groupOK_of_past ok.gs t1 t2 (fun _ => ?_) (fun h => Bool.noConfusion h))
    -- the price stayed at or above the start of the group, so its tick did
    have hg : m.groupIndex * (m.c.groupSize : Int) ≤ tick := (groupOK_true m tick ▸ g) hmin
    have hcg := le_clamp_of_le (Int.le_refl _) (Int.le_trans hg (TP_range tick price tp).2)
    have := Int.le_ediv_of_mul_le (Int.natCast_pos.mpr ok.gs)
      (Int.le_trans hcg (ti_ge p' _ hp1 hp2 (clamp_bounds _).2 hbp))
    show m.groupIndex + (if m.aToB = true then -1 else 1) ≤ ti p' / (m.c.groupSize : Int) - 1
    rw [if_pos ok.dir]
    omega
  · exact fmOK_afterSkip true m fm' tick tick' nti price p' ok hv tp hend hskip

theorem fm_after_up (m : AdaptiveMgr) (fm' : FeeMgr) (tick tick' nti : Int) (price p' : Nat)
    (ok : MgrOK false m) (g : GroupOK false m tick) (hv : VarOK m.c m.v) (tp : TP tick price)
    (hp1 : MIN_SQRT_PRICE_X64 ≤ p') (hp2 : p' ≤ MAX_SQRT_PRICE_X64)
    (hend : StepEnd false tick tick' nti price p')
    (hfm : (p' ≤ sp (clampTick (m.groupIndex * (m.c.groupSize : Int) + m.c.groupSize)) ∧ fm' = (FeeMgr.adaptive m).advance) ∨
           (FeeMgr.adaptive m).advanceAfterSkip p' (sp nti) nti = .ok fm') :
    FmOK false tick' fm' := by
  rcases hfm with ⟨hbp, e⟩ | hskip
  · obtain ⟨_, t1, t2⟩ := stepEnd_ti false tick tick' nti price p' tp hend
    rw [e]
    refine fmOK_of false tick' m _ ok hv rfl rfl rfl rfl (Or.inl rfl)
      (groupOK_of_past ok.gs t1 t2 (fun h => Bool.noConfusion h) (fun _ => ?_))
    -- the price stayed at or below the end of the group, so its tick did
    have hg : tick < m.groupIndex * (m.c.groupSize : Int) + m.c.groupSize := groupOK_false m tick ▸ g
    have hmin := (TP_range tick price tp).1
    have hcl := clamp_le_of_le (Int.le_refl (m.groupIndex * (m.c.groupSize : Int) + m.c.groupSize)) (by omega)
    have hc := ti_le p' _ hp1 hp2 (clamp_bounds _).1 hbp
    show ti p' / (m.c.groupSize : Int) ≤ m.groupIndex + (if m.aToB = true then -1 else 1)
    rw [if_neg (ok.dir ▸ Bool.false_ne_true)]
    refine Int.ediv_le_of_le_mul (Int.natCast_pos.mpr ok.gs) ?_
    rw [Int.add_mul, Int.one_mul]
    omega
  · exact fmOK_afterSkip false m fm' tick tick' nti price p' ok hv tp hend hskip

/-! ### the same, for either kind of fee manager -/

theorem fm_bounded_down (fm : FeeMgr) (tick : Int) (price tgt liq : Nat) (h : FmOK true tick fm)
    (h1 : MIN_TICK_INDEX ≤ tick) (h2 : tick ≤ MAX_TICK_INDEX) (h3 : sp tick ≤ price) (ht : tgt ≤ price) :
    tgt ≤ (fm.updateVolAcc.boundedTarget tgt liq).1 ∧ (fm.updateVolAcc.boundedTarget tgt liq).1 ≤ price := by
  cases fm with
  | static r => exact ⟨Nat.le_refl _, ht⟩
  | adaptive m =>
    have := bounded_down { m with v := m.v.updateVolAcc m.groupIndex m.c } tick price tgt liq
      ⟨h.1.dir, h.1.gs, h.1.lb, h.1.ub⟩ (groupOK_congr (m := m) rfl rfl h.2.1) h1 h2 h3 ht
    exact ⟨this.1, this.2.1⟩

theorem fm_bounded_up (fm : FeeMgr) (tick : Int) (price tgt liq : Nat) (h : FmOK false tick fm)
    (h1 : MIN_TICK_INDEX - 1 ≤ tick) (h2 : tick < MAX_TICK_INDEX) (h3 : price ≤ sp (tick + 1)) (ht : price ≤ tgt) :
    price ≤ (fm.updateVolAcc.boundedTarget tgt liq).1 ∧ (fm.updateVolAcc.boundedTarget tgt liq).1 ≤ tgt := by
  cases fm with
  | static r => exact ⟨ht, Nat.le_refl _⟩
  | adaptive m =>
    have := bounded_up { m with v := m.v.updateVolAcc m.groupIndex m.c } tick price tgt liq
      ⟨h.1.dir, h.1.gs, h.1.lb, h.1.ub⟩ (groupOK_congr (m := m) rfl rfl h.2.1) h1 h2 h3 ht
    exact ⟨this.1, this.2.1⟩

theorem fm_next_down (fm fm' : FeeMgr) (tick tick' nti : Int) (price p' tgt liq : Nat) (h : FmOK true tick fm)
    (tp : TP tick price) (hmin : MIN_TICK_INDEX ≤ tick) (ht : tgt ≤ price)
    (hp1 : MIN_SQRT_PRICE_X64 ≤ p') (hp2 : p' ≤ MAX_SQRT_PRICE_X64)
    (hb : (fm.updateVolAcc.boundedTarget tgt liq).1 ≤ p')
    (hend : StepEnd true tick tick' nti price p')
    (hfm : ((fm.updateVolAcc.boundedTarget tgt liq).2 = false ∧ fm' = fm.updateVolAcc.advance) ∨
           fm.updateVolAcc.advanceAfterSkip p' (sp nti) nti = .ok fm') :
    FmOK true tick' fm' := by
  cases fm with
  | static r =>
    rcases hfm with ⟨_, e⟩ | e
    · rw [e]; exact h
    · cases e
  | adaptive m =>
    obtain ⟨ok, g, hv⟩ := h
    have ok' : MgrOK true { m with v := m.v.updateVolAcc m.groupIndex m.c } := ⟨ok.dir, ok.gs, ok.lb, ok.ub⟩
    have g' : GroupOK true { m with v := m.v.updateVolAcc m.groupIndex m.c } tick := groupOK_congr (m := m) rfl rfl g
    have hbd := bounded_down { m with v := m.v.updateVolAcc m.groupIndex m.c } tick price tgt liq ok' g' hmin
      (TP_range tick price tp).2 (TP_le_of_le tick tick price tp hmin (Int.le_refl _)) ht
    refine fm_after_down { m with v := m.v.updateVolAcc m.groupIndex m.c } fm' tick tick' nti price p' ok' g'
      (varOK_updateVolAcc _ _ _ hv) tp hmin hp1 hp2 hend ?_
    rcases hfm with ⟨e1, e2⟩ | e
    · exact Or.inl ⟨Nat.le_trans (hbd.2.2 e1) hb, e2⟩
    · exact Or.inr e

theorem fm_next_up (fm fm' : FeeMgr) (tick tick' nti : Int) (price p' tgt liq : Nat) (h : FmOK false tick fm)
    (tp : TP tick price) (hmax : tick < MAX_TICK_INDEX) (ht : price ≤ tgt)
    (hp1 : MIN_SQRT_PRICE_X64 ≤ p') (hp2 : p' ≤ MAX_SQRT_PRICE_X64)
    (hb : p' ≤ (fm.updateVolAcc.boundedTarget tgt liq).1)
    (hend : StepEnd false tick tick' nti price p')
    (hfm : ((fm.updateVolAcc.boundedTarget tgt liq).2 = false ∧ fm' = fm.updateVolAcc.advance) ∨
           fm.updateVolAcc.advanceAfterSkip p' (sp nti) nti = .ok fm') :
    FmOK false tick' fm' := by
  cases fm with
  | static r =>
    rcases hfm with ⟨_, e⟩ | e
    · rw [e]; exact h
    · cases e
  | adaptive m =>
    obtain ⟨ok, g, hv⟩ := h
    have ok' : MgrOK false { m with v := m.v.updateVolAcc m.groupIndex m.c } := ⟨ok.dir, ok.gs, ok.lb, ok.ub⟩
    have g' : GroupOK false { m with v := m.v.updateVolAcc m.groupIndex m.c } tick := groupOK_congr (m := m) rfl rfl g
    have hbd := bounded_up { m with v := m.v.updateVolAcc m.groupIndex m.c } tick price tgt liq ok' g'
      (TP_range tick price tp).1 hmax (TP_le_of_lt tick _ price tp hmax (Int.lt_add_one_iff.mpr (Int.le_refl _))) ht
    refine fm_after_up { m with v := m.v.updateVolAcc m.groupIndex m.c } fm' tick tick' nti price p' ok' g'
      (varOK_updateVolAcc _ _ _ hv) tp hp1 hp2 hend ?_
    rcases hfm with ⟨e1, e2⟩ | e
    · exact Or.inl ⟨Nat.le_trans hb (hbd.2.2 e1), e2⟩
    · exact Or.inr e

/-! ### establishing the manager invariant: `FeeRateManager::new` -/

/-- what the stored adaptive-fee state must satisfy (validated constants give the first two; the
    variables are kept in range by every swap: `swap_path`) -/
structure InfoOK (info : AfInfo) : Prop where
  gs : 0 < info.constants.groupSize
  red : info.constants.reductionFactor < 10000
  var : VarOK info.constants info.variables

theorem toI32_nonneg (x : Nat) (h : x < 2147483648) : 0 ≤ toI32 x := by
  unfold toI32
  rw [Nat.mod_eq_of_lt (Nat.lt_trans h (by decide)), if_neg (Nat.not_le_of_lt h)]
  exact Int.natCast_nonneg x

theorem ceilDiv_le (a b : Nat) : ceilDiv a b ≤ a / b + 1 := by
  unfold ceilDiv
  split
  · exact Nat.le_succ _
  · exact Nat.le_refl _

/-- the outcomes of `update_reference`: untouched within the filter period; otherwise the reference
    moves to the current group and the volatility reference is reset or decayed -/
theorem updateReference_cases (v v' : AfVariables) (g : Int) (now : Nat) (c : AfConstants)
    (h : v.updateReference g now c = .ok v') :
    v' = v ∨ (v'.groupIndexRef = g ∧ v'.volAcc = v.volAcc ∧
      (v'.volRef = 0 ∨ v'.volRef = (v.volAcc * c.reductionFactor / REDUCTION_FACTOR_DENOMINATOR) % TWO32)) := by
  unfold AfVariables.updateReference at h
  dsimp only at h
  by_cases c1 : now < max v.lastRefUpdateTs v.lastMajorSwapTs
  · rw [if_pos c1] at h; cases h
  rw [if_neg c1] at h
  by_cases c2 : now - v.lastRefUpdateTs > MAX_REFERENCE_AGE
  · rw [if_pos c2] at h; cases h; exact Or.inr ⟨rfl, rfl, Or.inl rfl⟩
  rw [if_neg c2] at h
  by_cases c3 : now - max v.lastRefUpdateTs v.lastMajorSwapTs < c.filterPeriod
  · rw [if_pos c3] at h; cases h; exact Or.inl rfl
  rw [if_neg c3] at h
  by_cases c4 : now - max v.lastRefUpdateTs v.lastMajorSwapTs < c.decayPeriod
  · rw [if_pos c4] at h; cases h; exact Or.inr ⟨rfl, rfl, Or.inr rfl⟩
  · rw [if_neg c4] at h; cases h; exact Or.inr ⟨rfl, rfl, Or.inl rfl⟩

theorem updateReference_varOK (c : AfConstants) (v v' : AfVariables) (tick : Int) (now : Nat) (hgs : 0 < c.groupSize)
    (hred : c.reductionFactor < REDUCTION_FACTOR_DENOMINATOR) (hv : VarOK c v)
    (h1 : MIN_TICK_INDEX - 1 ≤ tick) (h2 : tick ≤ MAX_TICK_INDEX)
    (h : v.updateReference (tick / (c.groupSize : Int)) now c = .ok v') : VarOK c v' := by
  rcases updateReference_cases v v' _ now c h with e | ⟨e1, e2, e3⟩
  · rw [e]; exact hv
  · obtain ⟨g1, g2⟩ := group_bounds tick c.groupSize (Int.natCast_pos.mpr hgs)
    refine ⟨?_, e2 ▸ hv.2.1, by rw [e1]; omega, by rw [e1]; omega⟩
    rcases e3 with e | e
    · rw [e]; exact Nat.zero_le _
    · -- the decayed value is at most the accumulator
      rw [e]
      exact Nat.le_trans (Nat.mod_le _ _) (Nat.le_trans
        (Nat.div_le_of_le_mul (Nat.mul_comm v.volAcc _ ▸ Nat.mul_le_mul_left v.volAcc (Nat.le_of_lt hred))) hv.2.1)

theorem new_ok (d : Bool) (tick : Int) (now rate : Nat) (af : Option AfInfo) (fm : FeeMgr)
    (hrate : rate ≤ FEE_RATE_HARD_LIMIT) (haf : ∀ info, af = some info → InfoOK info)
    (h1 : MIN_TICK_INDEX - 1 ≤ tick) (h2 : tick ≤ MAX_TICK_INDEX)
    (h : FeeMgr.new d tick now rate af = .ok fm) : FmOK d tick fm := by
  unfold FeeMgr.new at h
  cases af with
  | none => cases h; exact hrate
  | some info =>
    obtain ⟨hgs, hred, hv⟩ := haf info rfl
    dsimp only at h
    split at h
    · cases h
    · rename_i v hvr
      cases h
      have hgsI : (0 : Int) < info.constants.groupSize := Int.natCast_pos.mpr hgs
      have hv' := updateReference_varOK _ _ _ tick now hgs hred hv h1 h2 hvr
      obtain ⟨g1, g2⟩ := group_bounds tick info.constants.groupSize hgsI
      -- the reachable range extends `delta ≥ 0` groups to either side of the reference group
      have hdelta : 0 ≤ toI32 (ceilDiv ((info.constants.maxVolAcc + TWO32 - v.volRef) % TWO32) VOLATILITY_ACCUMULATOR_SCALE_FACTOR) := by
        apply toI32_nonneg
        have : (info.constants.maxVolAcc + TWO32 - v.volRef) % TWO32 < 4294967296 := Nat.mod_lt _ (by decide)
        refine Nat.lt_of_le_of_lt (ceilDiv_le _ _) ?_
        unfold VOLATILITY_ACCUMULATOR_SCALE_FACTOR
        omega
      refine ⟨{ dir := rfl, gs := hgs, lb := ?_, ub := ?_ }, ?_, hv'⟩
      · intro li lp hl
        dsimp only at hl
        split at hl
        · rename_i hgt
          cases hl
          have hm := Int.mul_le_mul_of_nonneg_right (Int.sub_le_self v.groupIndexRef hdelta) (Int.le_of_lt hgsI)
          exact ⟨rfl, Int.le_of_lt hgt, Int.le_trans hm hv'.2.2.2⟩
        · cases hl
      · intro ui up hu
        dsimp only at hu
        split at hu
        · rename_i hlt
          cases hu
          have hm := Int.mul_le_mul_of_nonneg_right (Int.le_add_of_nonneg_right hdelta : v.groupIndexRef ≤ _) (Int.le_of_lt hgsI)
          exact ⟨rfl, Int.le_trans hv'.2.2.1 (Int.add_le_add_right hm _), Int.le_of_lt hlt⟩
        · cases hu
      · cases d with
        | true => rw [groupOK_true]; exact fun _ => g1
        | false => rw [groupOK_false]; exact g2

end WP.Path
