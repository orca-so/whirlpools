import WP.Props.SwapPath
import WP.Props.C07
/-
  C07 along the whole swap: the fee growth INSIDE a position's range advances by exactly the
  growth of the steps taken while the current tick was inside the range, and each step's growth is
  the pro-rata share ⌊lpFee · 2^64 / L⌋ of that step's LP fee, L being the sum of the liquidity of
  the positions in range at that step.  Crossing a tick (flipping its `outside` values) never
  changes the growth inside any range, for either token.

  Built on: the per-crossing lemmas of C07 (cross_lower/upper_left/right, inside_tracks_in_range,
  inside_const_below/above), the `Shape` of an iteration and the loop theorem `loop_path_inv`
  (WP/Props/SwapPath.lean).
-/
namespace WP.Growth
open WP WP.Gen WP.C05 WP.C10 WP.Path WP.C07

def fo (tokA : Bool) (t : TickData) : Nat := if tokA then t.fgoA else t.fgoB

theorem fo_cross (tokA : Bool) (t : TickData) (ga gb : Nat) (rw : List RewardInfo) :
    fo tokA (nextTickCrossUpdate t ga gb rw) = wsub (if tokA then ga else gb) (fo tokA t) := by
  unfold nextTickCrossUpdate fo
  cases tokA
  · simp only [Bool.false_eq_true, if_false]
  · simp only [if_true]

def TicksWF (ticks : TickMap) : Prop := ∀ t, (ticks.get t).fgoA < TWO128 ∧ (ticks.get t).fgoB < TWO128

theorem fo_lt (tokA : Bool) (ticks : TickMap) (wf : TicksWF ticks) (t : Int) : fo tokA (ticks.get t) < TWO128 := by
  unfold fo; cases tokA
  · exact (wf t).2
  · exact (wf t).1

def inside (tokA : Bool) (ticks : TickMap) (cur lo hi : Int) (glob : Nat) : Nat :=
  insideInit cur lo (fo tokA (ticks.get lo)) hi (fo tokA (ticks.get hi)) glob

/-- a bound of a position that holds liquidity: initialized in every tick map consistent with `ps` -/
def Bound (ps : List (Nat × PositionD)) (t : Int) : Prop := 0 < sumBy (grossContrib t) ps

theorem bound_init (ticks : TickMap) (ps : List (Nat × PositionD)) (ts : Nat) (tf : TickFacts ticks ps ts) (t : Int)
    (h : Bound ps t) : initAt ticks t = true ∧ t % (ts : Int) = 0 := by
  have h1 := tf.init t
  have h2 := tf.gross t
  unfold Bound at h
  have : (ticks.get t).gross > 0 := by omega
  have hi : initAt ticks t = true := by unfold initAt; rw [h1]; exact decide_eq_true this
  exact ⟨hi, (init_grid ticks ps ts tf t hi).1⟩

/-- sliding the current tick index over an interval without initialized grid ticks: it passes no
    bound of a liquidity-bearing range, so stays in the same region of every such range -/
theorem slide_inside (ticks : TickMap) (ps : List (Nat × PositionD)) (ts : Nat) (tf : TickFacts ticks ps ts) (a b lo hi : Int)
    (oL oH G : Nat) (bl : Bound ps lo) (bh : Bound ps hi) (hab : a ≤ b)
    (hno : ∀ x, a < x → x ≤ b → x % (ts : Int) = 0 → initAt ticks x = false) :
    insideInit a lo oL hi oH G = insideInit b lo oL hi oH G := by
  obtain ⟨il, gl⟩ := bound_init ticks ps ts tf lo bl
  obtain ⟨ih, gh⟩ := bound_init ticks ps ts tf hi bh
  have nl : ¬ (a < lo ∧ lo ≤ b) := fun ⟨h1, h2⟩ => Bool.noConfusion ((hno lo h1 h2 gl).symm.trans il)
  have nh : ¬ (a < hi ∧ hi ≤ b) := fun ⟨h1, h2⟩ => Bool.noConfusion ((hno hi h1 h2 gh).symm.trans ih)
  exact insideInit_cur_congr _ _ _ _ _ _ _ (by constructor <;> intro h <;> omega) (by constructor <;> intro h <;> omega)

/-- crossing tick `nti`, which flips its stored value against `G`, in either direction: a bound of the
    range is handled by the crossing lemmas of C07, any other tick does not change the region -/
theorem flip_inside (ticks : TickMap) (nti lo hi : Int) (proj : TickData → Nat) (T' : TickData) (G : Nat)
    (wf : ∀ t, proj (ticks.get t) < TWO128) (hG : G < TWO128) (hlh : lo < hi)
    (hproj : proj T' = wsub G (proj (ticks.get nti))) :
    insideInit (nti - 1) lo (proj ((ticks.set nti T').get lo)) hi (proj ((ticks.set nti T').get hi)) G =
      insideInit nti lo (proj (ticks.get lo)) hi (proj (ticks.get hi)) G ∧
    insideInit nti lo (proj ((ticks.set nti T').get lo)) hi (proj ((ticks.set nti T').get hi)) G =
      insideInit (nti - 1) lo (proj (ticks.get lo)) hi (proj (ticks.get hi)) G := by
  rw [C05.tick_get_set, C05.tick_get_set]
  by_cases e : lo = nti
  · have e' : ¬ hi = nti := by omega
    rw [if_pos e, if_neg e', hproj, ← e]
    exact ⟨cross_lower_left lo hi _ _ G hlh hG (wf lo), cross_lower_right lo hi _ _ G hlh hG (wf lo)⟩
  · rw [if_neg e]
    by_cases e' : hi = nti
    · rw [if_pos e', hproj, ← e']
      exact ⟨cross_upper_left lo hi _ _ G hlh hG (wf hi), cross_upper_right lo hi _ _ G hlh hG (wf hi)⟩
    · rw [if_neg e']
      have := insideInit_cur_congr (nti - 1) nti lo hi (proj (ticks.get lo)) (proj (ticks.get hi)) G
        (by constructor <;> intro h <;> omega) (by constructor <;> intro h <;> omega)
      exact ⟨this, this.symm⟩

/-- **moving the tick index along one iteration (with its possible crossing) never changes the
    growth inside a range**, for ANY per-tick accumulator `proj` that a crossing flips against `G`
    (fees A, B and each initialized reward): slide to `nti`, flip, or slide only -/
theorem move_inside_gen (c : SwapCtx) (ps : List (Nat × PositionD)) (s s' : SwapSt) (nti lo hi : Int) (proj : TickData → Nat) (G : Nat)
    (tf : TickFacts s.ticks ps c.ts) (wf : ∀ t, proj (s.ticks.get t) < TWO128) (hG : G < TWO128) (hlh : lo < hi)
    (bl : Bound ps lo) (bh : Bound ps hi)
    (hmove : (s'.tick = (if c.aToB then nti - 1 else nti) ∧
      ((initAt s.ticks nti = true ∧ ∃ T', s'.ticks = s.ticks.set nti T' ∧ proj T' = wsub G (proj (s.ticks.get nti))) ∨
       (initAt s.ticks nti = false ∧ s'.ticks = s.ticks)) ∧
      (if c.aToB then nti ≤ s.tick ∧ ∀ x, nti < x → x ≤ s.tick → x % (c.ts : Int) = 0 → initAt s.ticks x = false
       else s.tick < nti ∧ ∀ x, s.tick < x → x < nti → x % (c.ts : Int) = 0 → initAt s.ticks x = false)) ∨
     (s'.ticks = s.ticks ∧
      (if c.aToB then s'.tick ≤ s.tick ∧ ∀ x, s'.tick < x → x ≤ s.tick → x % (c.ts : Int) = 0 → initAt s.ticks x = false
       else s.tick ≤ s'.tick ∧ ∀ x, s.tick < x → x ≤ s'.tick → x % (c.ts : Int) = 0 → initAt s.ticks x = false))) :
    insideInit s'.tick lo (proj (s'.ticks.get lo)) hi (proj (s'.ticks.get hi)) G =
      insideInit s.tick lo (proj (s.ticks.get lo)) hi (proj (s.ticks.get hi)) G := by
  have slide := fun a b => slide_inside s.ticks ps c.ts tf a b lo hi (proj (s.ticks.get lo)) (proj (s.ticks.get hi)) G bl bh
  rcases hmove with ⟨htick, hflip, hpath⟩ | ⟨hticks, hpath⟩
  · -- an uninitialized `nti` is passed like any other tick
    have hstay : initAt s.ticks nti = false → insideInit (nti - 1) lo (proj (s.ticks.get lo)) hi (proj (s.ticks.get hi)) G =
        insideInit nti lo (proj (s.ticks.get lo)) hi (proj (s.ticks.get hi)) G := fun hin =>
      slide (nti - 1) nti (by omega) (fun x hx1 hx2 _ => (show x = nti by omega) ▸ hin)
    by_cases hd : c.aToB = true
    · rw [if_pos hd] at htick hpath
      rw [htick, ← slide nti s.tick hpath.1 hpath.2]
      rcases hflip with ⟨_, T', hset, hproj⟩ | ⟨hin, hsame⟩
      · rw [hset]; exact (flip_inside s.ticks nti lo hi proj T' G wf hG hlh hproj).1
      · rw [hsame]; exact hstay hin
    · rw [if_neg hd] at htick hpath
      rw [htick, slide s.tick (nti - 1) (by omega) (fun x hx1 hx2 hx3 => hpath.2 x hx1 (by omega) hx3)]
      rcases hflip with ⟨_, T', hset, hproj⟩ | ⟨hin, hsame⟩
      · rw [hset]; exact (flip_inside s.ticks nti lo hi proj T' G wf hG hlh hproj).2
      · rw [hsame]; exact (hstay hin).symm
  · rw [hticks]
    by_cases hd : c.aToB = true
    · rw [if_pos hd] at hpath; exact slide s'.tick s.tick hpath.1 hpath.2
    · rw [if_neg hd] at hpath; exact (slide s.tick s'.tick hpath.1 hpath.2).symm

theorem move_inside (c : SwapCtx) (ps : List (Nat × PositionD)) (s s' : SwapSt) (nti lo hi : Int) (tokA : Bool) (G : Nat)
    (tf : TickFacts s.ticks ps c.ts) (wf : TicksWF s.ticks) (hG : G < TWO128) (hlh : lo < hi)
    (bl : Bound ps lo) (bh : Bound ps hi)
    (hmove : (s'.tick = (if c.aToB then nti - 1 else nti) ∧
      ((initAt s.ticks nti = true ∧ ∃ ga gb, (if tokA then ga else gb) = G ∧
          s'.ticks = s.ticks.set nti (nextTickCrossUpdate (s.ticks.get nti) ga gb c.rewards)) ∨
       (initAt s.ticks nti = false ∧ s'.ticks = s.ticks)) ∧
      (if c.aToB then nti ≤ s.tick ∧ ∀ x, nti < x → x ≤ s.tick → x % (c.ts : Int) = 0 → initAt s.ticks x = false
       else s.tick < nti ∧ ∀ x, s.tick < x → x < nti → x % (c.ts : Int) = 0 → initAt s.ticks x = false)) ∨
     (s'.ticks = s.ticks ∧
      (if c.aToB then s'.tick ≤ s.tick ∧ ∀ x, s'.tick < x → x ≤ s.tick → x % (c.ts : Int) = 0 → initAt s.ticks x = false
       else s.tick ≤ s'.tick ∧ ∀ x, s.tick < x → x ≤ s'.tick → x % (c.ts : Int) = 0 → initAt s.ticks x = false))) :
    inside tokA s'.ticks s'.tick lo hi G = inside tokA s.ticks s.tick lo hi G := by
  apply move_inside_gen c ps s s' nti lo hi (fo tokA) G tf (fo_lt tokA s.ticks wf) hG hlh bl bh
  rcases hmove with ⟨a, b, c'⟩ | h2
  · refine Or.inl ⟨a, ?_, c'⟩
    rcases b with ⟨b1, ga, gb, hg, b2⟩ | b
    · exact Or.inl ⟨b1, _, b2, by rw [fo_cross, hg]⟩
    · exact Or.inr b
  · exact Or.inr h2

theorem move_inside_shape (c : SwapCtx) (ps : List (Nat × PositionD)) (s s' : SwapSt) (nti lo hi : Int) (proj : TickData → Nat) (G : Nat)
    (tf : TickFacts s.ticks ps c.ts) (wf : ∀ t, proj (s.ticks.get t) < TWO128) (hG : G < TWO128) (hlh : lo < hi)
    (bl : Bound ps lo) (bh : Bound ps hi) (sh : Shape c s s' nti)
    (hproj : proj (nextTickCrossUpdate (s.ticks.get nti) (if c.aToB then s'.fgIn else c.fgOtherA)
      (if c.aToB then c.fgOtherB else s'.fgIn) c.rewards) = wsub G (proj (s.ticks.get nti))) :
    insideInit s'.tick lo (proj (s'.ticks.get lo)) hi (proj (s'.ticks.get hi)) G =
      insideInit s.tick lo (proj (s.ticks.get lo)) hi (proj (s.ticks.get hi)) G := by
  apply move_inside_gen c ps s s' nti lo hi proj G tf wf hG hlh bl bh
  rcases sh.2 with ⟨a, b, c'⟩ | h2
  · refine Or.inl ⟨a, ?_, c'⟩
    rcases b with ⟨b1, b2⟩ | b
    · exact Or.inl ⟨b1, _, b2, hproj⟩
    · exact Or.inr b
  · exact Or.inr h2

theorem advance_inside (tokA : Bool) (ticks : TickMap) (cur lo hi : Int) (g d : Nat) (wf : TicksWF ticks) (hg : g < TWO128)
    (hlh : lo < hi) :
    inside tokA ticks cur lo hi (wadd g d) =
      if lo ≤ cur ∧ cur < hi then wadd (inside tokA ticks cur lo hi g) d else inside tokA ticks cur lo hi g := by
  have hoL := fo_lt tokA ticks wf lo
  have hoH := fo_lt tokA ticks wf hi
  unfold inside
  by_cases h : lo ≤ cur ∧ cur < hi
  · rw [if_pos h]; exact inside_tracks_in_range cur lo hi _ _ g d h.1 h.2 hg hoL hoH
  · rw [if_neg h]
    by_cases hb : cur < lo
    · exact inside_const_below cur lo hi _ _ g d hb hlh hg hoL hoH
    · exact inside_const_above cur lo hi _ _ g d (by omega) hlh hg hoL hoH

/-! ### the ghost log of a swap -/

def wsum (base : Nat) (l : List Nat) : Nat := l.foldl wadd base

theorem wsum_nil (base : Nat) : wsum base [] = base := rfl

theorem wsum_append (base : Nat) (l : List Nat) (d : Nat) : wsum base (l ++ [d]) = wadd (wsum base l) d := by
  unfold wsum; rw [List.foldl_append]; rfl

/-- the pro-rata share of a step's LP fee per unit of liquidity, Q64.64, rounded down -/
def share (L lpFee : Nat) : Nat := if L > 0 then lpFee * TWO64 / L else 0

/-- the growth deltas of the steps taken while the tick index was inside [lo, hi) -/
def inRangeDeltas (log : List (Int × Nat)) (lo hi : Int) : List Nat :=
  (log.filter fun e => decide (lo ≤ e.1 ∧ e.1 < hi)).map (·.2)

theorem inRangeDeltas_nil (lo hi : Int) : inRangeDeltas [] lo hi = [] := rfl

theorem inRangeDeltas_append (log : List (Int × Nat)) (t : Int) (d : Nat) (lo hi : Int) :
    inRangeDeltas (log ++ [(t, d)]) lo hi = if lo ≤ t ∧ t < hi then inRangeDeltas log lo hi ++ [d] else inRangeDeltas log lo hi := by
  unfold inRangeDeltas
  rw [List.filter_append, List.map_append]
  by_cases h : lo ≤ t ∧ t < hi
  · rw [if_pos h, List.filter_cons_of_pos (p := fun e : Int × Nat => decide (lo ≤ e.1 ∧ e.1 < hi)) (decide_eq_true h)]; rfl
  · rw [if_neg h, List.filter_cons_of_neg (p := fun e : Int × Nat => decide (lo ≤ e.1 ∧ e.1 < hi))
      (by rw [decide_eq_false h]; exact Bool.false_ne_true)]
    exact List.append_nil _

def globOther (c : SwapCtx) : Nat := if c.aToB then c.fgOtherB else c.fgOtherA

/-- the accounting invariant of the loop, relative to the state `s0` at which the swap started -/
structure GrowthInv (c : SwapCtx) (ps : List (Nat × PositionD)) (s0 s : SwapSt) (log : List (Int × Nat)) : Prop where
  wf : TicksWF s.ticks
  fg : s.fgIn < TWO128
  total : s.fgIn = wsum s0.fgIn (log.map (·.2))
  pro : ∀ e ∈ log, ∃ lpFee, e.2 = share (sumBy (inRangeLiq e.1) ps).toNat lpFee
  inIn : ∀ lo hi, lo < hi → Bound ps lo → Bound ps hi →
    inside c.aToB s.ticks s.tick lo hi s.fgIn = wsum (inside c.aToB s0.ticks s0.tick lo hi s0.fgIn) (inRangeDeltas log lo hi)
  inOther : ∀ lo hi, lo < hi → Bound ps lo → Bound ps hi →
    inside (!c.aToB) s.ticks s.tick lo hi (globOther c) = inside (!c.aToB) s0.ticks s0.tick lo hi (globOther c)

theorem ticksWF_cross (ticks : TickMap) (wf : TicksWF ticks) (nti : Int) (ga gb : Nat) (rw : List RewardInfo) :
    TicksWF (ticks.set nti (nextTickCrossUpdate (ticks.get nti) ga gb rw)) := by
  intro t
  rw [C05.tick_get_set]
  by_cases e : t = nti
  · rw [if_pos e]
    unfold nextTickCrossUpdate
    exact ⟨wsub_lt _ _, wsub_lt _ _⟩
  · rw [if_neg e]; exact wf t

theorem calculateFees_growth (fee p liq cur fg : Nat) (hfg : fg < TWO128) :
    (calculateFees fee p liq cur fg).2 = wadd fg (share liq (fee - C06.cut p fee)) := by
  unfold calculateFees share C06.cut
  dsimp only
  by_cases hl : liq > 0
  · rw [if_pos hl, if_pos hl]
  · rw [if_neg hl, if_neg hl]
    exact (Nat.mod_eq_of_lt hfg).symm

/-- a crossing flips the input token against the new global growth, the other token against its
    constant one -/
theorem step_inside (c : SwapCtx) (ps : List (Nat × PositionD)) (p0 : Nat) (s s' : SwapSt) (nti : Int) (d : Nat)
    (hGo : globOther c < TWO128) (P : Path c ps p0 s) (sh : Shape c s s' nti)
    (wf : TicksWF s.ticks) (hfg : s.fgIn < TWO128) (hd : s'.fgIn = wadd s.fgIn d) :
    TicksWF s'.ticks ∧ ∀ lo hi, lo < hi → Bound ps lo → Bound ps hi →
      inside c.aToB s'.ticks s'.tick lo hi s'.fgIn =
        (if lo ≤ s.tick ∧ s.tick < hi then wadd (inside c.aToB s.ticks s.tick lo hi s.fgIn) d else inside c.aToB s.ticks s.tick lo hi s.fgIn) ∧
      inside (!c.aToB) s'.ticks s'.tick lo hi (globOther c) = inside (!c.aToB) s.ticks s.tick lo hi (globOther c) := by
  have hfg' : s'.fgIn < TWO128 := by rw [hd]; exact wadd_lt _ _
  have mv : ∀ (tokA : Bool) (G : Nat), (if tokA then (if c.aToB then s'.fgIn else c.fgOtherA) else (if c.aToB then c.fgOtherB else s'.fgIn)) = G →
      G < TWO128 → ∀ lo hi, lo < hi → Bound ps lo → Bound ps hi →
      inside tokA s'.ticks s'.tick lo hi G = inside tokA s.ticks s.tick lo hi G := fun tokA G hG hGlt lo hi hlh bl bh =>
    move_inside_shape c ps s s' nti lo hi (fo tokA) G P.tf (fo_lt tokA s.ticks wf) hGlt hlh bl bh sh (by rw [fo_cross, hG])
  constructor
  · rcases sh.2 with ⟨_, b, _⟩ | ⟨h2, _⟩
    · rcases b with ⟨_, b2⟩ | ⟨_, b2⟩
      · rw [b2]; exact ticksWF_cross _ wf _ _ _ _
      · rw [b2]; exact wf
    · rw [h2]; exact wf
  · intro lo hi hlh bl bh
    constructor
    · have hG : (if c.aToB then (if c.aToB then s'.fgIn else c.fgOtherA) else (if c.aToB then c.fgOtherB else s'.fgIn)) = s'.fgIn := by
        cases c.aToB <;> rfl
      rw [mv c.aToB s'.fgIn hG hfg' lo hi hlh bl bh, hd, advance_inside _ _ _ _ _ _ _ wf hfg hlh]
    · have hG : (if (!c.aToB) then (if c.aToB then s'.fgIn else c.fgOtherA) else (if c.aToB then c.fgOtherB else s'.fgIn)) = globOther c := by
        unfold globOther; cases c.aToB <;> rfl
      exact mv (!c.aToB) (globOther c) hG hGo lo hi hlh bl bh

theorem step_growth (c : SwapCtx) (ps : List (Nat × PositionD)) (p0 : Nat) (s0 s s' : SwapSt) (nai : Nat) (nti : Int)
    (hGo : globOther c < TWO128)
    (P : Path c ps p0 s) (_A : Aim c s nai nti) (sh : Shape c s s' nti) (_P' : Path c ps p0 s')
    (q : ∃ log, GrowthInv c ps s0 s log) : ∃ log, GrowthInv c ps s0 s' log := by
  obtain ⟨log, inv⟩ := q
  obtain ⟨fee, hfee⟩ := sh.1
  rw [calculateFees_growth _ _ _ _ _ inv.fg] at hfee
  have hliq : s.liq = (sumBy (inRangeLiq s.tick) ps).toNat := by have := P.liq; omega
  obtain ⟨wf', hin⟩ := step_inside c ps p0 s s' nti _ hGo P sh inv.wf inv.fg hfee
  refine ⟨log ++ [(s.tick, share s.liq (fee - C06.cut c.protoRate fee))], ?_⟩
  exact
    { wf := wf',
      fg := by rw [hfee]; exact wadd_lt _ _,
      total := by rw [List.map_append, List.map_cons, List.map_nil, wsum_append, ← inv.total]; exact hfee,
      pro := by
        intro e he
        rcases List.mem_append.mp he with h | h
        · exact inv.pro e h
        · rw [List.mem_singleton.mp h, ← hliq]; exact ⟨_, rfl⟩,
      inIn := by
        intro lo hi hlh bl bh
        rw [(hin lo hi hlh bl bh).1, inRangeDeltas_append, inv.inIn lo hi hlh bl bh]
        by_cases hr : lo ≤ s.tick ∧ s.tick < hi
        · rw [if_pos hr, if_pos hr, wsum_append]
        · rw [if_neg hr, if_neg hr],
      inOther := fun lo hi hlh bl bh => (hin lo hi hlh bl bh).2.trans (inv.inOther lo hi hlh bl bh) }

/-! ### the whole swap -/

/-- **C07 for a whole swap** (any pool state consistent with the positions `ps`, any amount, limit,
    mode, direction, fee mode, number of steps and arrays): there is a log of the steps taken —
    (tick index during the step, growth of that step) — such that
      * the input token's global fee growth advanced by the sum of all step growths,
      * every step growth is ⌊lpFee · 2^64 / L⌋ with L the total liquidity of the positions in range
        at that step (pro-rata),
      * for every range [lo, hi) bounded by liquidity-bearing ticks, the fee growth INSIDE the range
        advanced by exactly the growths of the steps taken while the tick index was inside the range
        — nothing while the price was outside, nothing from crossing ticks —
      * and the other token's growth inside did not move at all.
    All sums are in Z/2^128, like the accumulators. -/
theorem swap_fee_growth (p : PoolD) (ticks : TickMap) (ps : List (Nat × PositionD)) (arrays : List Int) (amount limit : Nat)
    (isInput aToB : Bool) (now fuel : Nat) (af : Option AfInfo) (u : PostSwap)
    (hts : 0 < p.ts) (hseq : SeqOK arrays p.ts aToB)
    (hliq : (p.liq : Int) = sumBy (inRangeLiq p.tick) ps) (tf : TickFacts ticks ps p.ts) (tp : TP p.tick p.price)
    (hL : p.liq ≤ U128_MAX) (hfee : p.feeRate ≤ FEE_RATE_HARD_LIMIT) (hamt : amount ≤ U64_MAX)
    (haf : ∀ info, af = some info → InfoOK info)
    (wf : TicksWF ticks) (hgA : p.fgA < TWO128) (hgB : p.fgB < TWO128)
    (h : swap p ticks arrays amount limit isInput aToB now af fuel = .ok u) :
    ∃ log : List (Int × Nat),
      u.fgIn = wsum (if aToB then p.fgA else p.fgB) (log.map (·.2)) ∧
      (∀ e ∈ log, ∃ lpFee, e.2 = share (sumBy (inRangeLiq e.1) ps).toNat lpFee) ∧
      (∀ lo hi, lo < hi → Bound ps lo → Bound ps hi →
        inside aToB u.ticks u.tick lo hi u.fgIn =
          wsum (inside aToB ticks p.tick lo hi (if aToB then p.fgA else p.fgB)) (inRangeDeltas log lo hi) ∧
        inside (!aToB) u.ticks u.tick lo hi (if aToB then p.fgB else p.fgA) =
          inside (!aToB) ticks p.tick lo hi (if aToB then p.fgB else p.fgA)) ∧
      TicksWF u.ticks ∧ u.fgIn < TWO128 := by
  obtain ⟨rewards, fm, s, ok, P0, hloop, hfin, _⟩ :=
    swap_setup p ticks ps arrays amount limit isInput aToB now fuel af u hts hseq hliq tf tp hL hfee hamt haf h
  have hGo : globOther (swapCtxOf p arrays limit isInput aToB rewards) < TWO128 := by
    unfold globOther swapCtxOf
    simp only []
    split <;> assumption
  have hfg0 : (swapInit p ticks amount aToB fm).fgIn < TWO128 := by
    unfold swapInit
    simp only []
    split <;> assumption
  have q0 : ∃ log, GrowthInv (swapCtxOf p arrays limit isInput aToB rewards) ps (swapInit p ticks amount aToB fm)
      (swapInit p ticks amount aToB fm) log :=
    ⟨[], { wf := wf, fg := hfg0, total := by rw [List.map_nil, wsum_nil], pro := fun e he => (by cases he),
           inIn := fun lo hi _ _ _ => by rw [inRangeDeltas_nil, wsum_nil], inOther := fun _ _ _ _ _ => Eq.refl _ }⟩
  obtain ⟨_, log, inv⟩ := loop_path_inv _ ps p.price ok
    (fun st => ∃ log, GrowthInv (swapCtxOf p arrays limit isInput aToB rewards) ps (swapInit p ticks amount aToB fm) st log)
    (fun a b nai nti Pa A sh Pb q => step_growth _ ps p.price _ a b nai nti hGo Pa A sh Pb q)
    fuel _ none s P0 q0 (fun _ _ _ _ he => by cases he) hloop
  obtain ⟨_, _, _, rfl⟩ := swapFinish_ok.mp hfin
  exact ⟨log, inv.total, inv.pro, fun lo hi hlh bl bh => ⟨inv.inIn lo hi hlh bl bh, inv.inOther lo hi hlh bl bh⟩, inv.wf, inv.fg⟩

end WP.Growth
