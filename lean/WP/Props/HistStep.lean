import WP.Model.Hist
import WP.Props.PoolOps
import WP.Lemmas.Loop
/-
  What a successful operation of the history machine (WP/Model/Hist.lean) is made of: for each
  operation of `histStep`, the guards that passed, the manager calls that succeeded (WP/Props/PoolOps.lean says what
  those return) and the new state written out; the same for the reward configuration `histReward`
  with its partial commits (`histStep` itself refuses `.reward`; `Reach.histApply` sends that
  operation to `histReward`).  Proofs about histories use these instead of opening `histStep`.
-/
namespace WP
open WP.Gen

theorem histStep_open_ok {s s' : HistState} {id : Nat} {lo hi : Int} {outs : List Nat}
    (h : histStep s (.openPos id lo hi) = .ok (s', outs)) :
    isUsableTick lo s.pool.ts = true ∧ isUsableTick hi s.pool.ts = true ∧ lo < hi ∧
    (s.pool.ts ≥ FULL_RANGE_ONLY_TICK_SPACING_THRESHOLD →
      lo = Int.tdiv MIN_TICK_INDEX s.pool.ts * s.pool.ts ∧ hi = Int.tdiv MAX_TICK_INDEX s.pool.ts * s.pool.ts) ∧
    posGet s.positions id = none ∧
    s' = { s with positions := posSet s.positions id { lower := lo, upper := hi } } ∧ outs = [] := by
  obtain ⟨hu, h⟩ := ok_of_ite h
  obtain ⟨hfull, h⟩ := ok_of_ite h
  obtain ⟨hn, h⟩ := ok_of_ite h
  cases h
  simp only [Bool.not_eq_true, Bool.not_eq_false', Bool.and_eq_true, decide_eq_true_eq] at hu
  simp only [Bool.and_eq_true, decide_eq_true_eq, Bool.not_eq_true', Bool.and_eq_false_iff, decide_eq_false_iff_not,
    not_and, not_or, Decidable.not_not] at hfull
  simp only [Bool.not_eq_true, Option.isSome_eq_false_iff, Option.isNone_iff_eq_none] at hn
  exact ⟨hu.1.1, hu.1.2, hu.2, hfull, hn, rfl, rfl⟩

theorem histStep_modify_ok {s s' : HistState} {id amount : Nat} {positive : Bool} {outs : List Nat}
    (h : histStep s (.modify id amount positive) = .ok (s', outs)) :
    amount ≠ 0 ∧ amount ≤ I128_MAX ∧ ∃ pos u da db, posGet s.positions id = some pos ∧
      calculateModifyLiquidity s.pool pos (s.ticks.get pos.lower) (s.ticks.get pos.upper)
        (if positive then (amount : Int) else -(amount : Int)) s.now = .ok u ∧
      calculateLiquidityTokenDeltas s.pool.tick s.pool.price pos.lower pos.upper
        (if positive then (amount : Int) else -(amount : Int)) = .ok (da, db) ∧
      (positive = false → da ≤ s.vaultA ∧ db ≤ s.vaultB) ∧
      s' = { s with pool := { s.pool with rewards := u.rewards, liq := u.poolLiq, rewardTs := s.now },
                    ticks := (s.ticks.set pos.lower u.tickLower).set pos.upper u.tickUpper,
                    positions := posReplace s.positions id u.position,
                    vaultA := if positive then s.vaultA + da else s.vaultA - da,
                    vaultB := if positive then s.vaultB + db else s.vaultB - db } ∧
      outs = [da, db] := by
  obtain ⟨hamt, h⟩ := ok_of_ite h
  obtain ⟨hmax, h⟩ := ok_of_ite h
  simp only [] at h
  split at h
  · cases h
  · rename_i pos hpos
    split at h
    · cases h
    · rename_i u hu
      split at h
      · cases h
      · rename_i da db hd
        refine ⟨hamt, Nat.le_of_not_gt hmax, pos, u, da, db, hpos, hu, hd, ?_⟩
        cases positive
        · obtain ⟨hv, h⟩ := ok_of_ite h
          cases h
          simp only [Bool.or_eq_true, decide_eq_true_eq, not_or, Nat.not_lt] at hv
          exact ⟨fun _ => hv, rfl, rfl⟩
        · cases h
          exact ⟨fun hp => Bool.noConfusion hp, rfl, rfl⟩

/-- `update_fees_and_rewards`: the same manager computation with liquidity delta 0 -/
theorem histStep_upd_ok {s s' : HistState} {id : Nat} {outs : List Nat}
    (h : histStep s (.upd id) = .ok (s', outs)) :
    ∃ pos u, posGet s.positions id = some pos ∧
      calculateModifyLiquidity s.pool pos (s.ticks.get pos.lower) (s.ticks.get pos.upper) 0 s.now = .ok u ∧
      s' = { s with pool := { s.pool with rewards := u.rewards, rewardTs := s.now },
                    positions := posReplace s.positions id u.position } ∧
      outs = [] := by
  unfold histStep at h
  simp only [] at h
  split at h
  · cases h
  · rename_i pos hpos
    split at h
    · cases h
    · rename_i u hu
      cases h
      exact ⟨pos, u, hpos, hu, rfl, rfl⟩

theorem histStep_cfees_ok {s s' : HistState} {id : Nat} {outs : List Nat}
    (h : histStep s (.cfees id) = .ok (s', outs)) :
    ∃ pos, posGet s.positions id = some pos ∧ pos.owedA ≤ s.vaultA ∧ pos.owedB ≤ s.vaultB ∧
      s' = { s with positions := posReplace s.positions id { pos with owedA := 0, owedB := 0 },
                    vaultA := s.vaultA - pos.owedA, vaultB := s.vaultB - pos.owedB } ∧
      outs = [pos.owedA, pos.owedB] := by
  unfold histStep at h
  simp only [] at h
  split at h
  · cases h
  · rename_i pos hpos
    obtain ⟨hv, h⟩ := ok_of_ite h
    cases h
    simp only [Bool.or_eq_true, decide_eq_true_eq, not_or, Nat.not_lt] at hv
    exact ⟨pos, hpos, hv.1, hv.2, rfl, rfl⟩

theorem histStep_cproto_ok {s s' : HistState} {outs : List Nat}
    (h : histStep s .cproto = .ok (s', outs)) :
    s.pool.pfA ≤ s.vaultA ∧ s.pool.pfB ≤ s.vaultB ∧
    s' = { s with pool := { s.pool with pfA := 0, pfB := 0 },
                  vaultA := s.vaultA - s.pool.pfA, vaultB := s.vaultB - s.pool.pfB } ∧
    outs = [s.pool.pfA, s.pool.pfB] := by
  obtain ⟨hv, h⟩ := ok_of_ite h
  cases h
  simp only [Bool.or_eq_true, decide_eq_true_eq, not_or, Nat.not_lt] at hv
  exact ⟨hv.1, hv.2, rfl, rfl⟩

theorem histStep_clock_ok {s s' : HistState} {now : Nat} {outs : List Nat}
    (h : histStep s (.clock now) = .ok (s', outs)) : s' = { s with now := now } ∧ outs = [] := by
  cases h
  exact ⟨rfl, rfl⟩

theorem histStep_swap_ok {s s' : HistState} {amount limit : Nat} {isInput aToB : Bool} {arrays : List Int} {outs : List Nat}
    (h : histStep s (.swap amount limit isInput aToB arrays) = .ok (s', outs)) :
    arrays ≠ [] ∧ ∃ u, swap s.pool s.ticks arrays amount limit isInput aToB s.now s.af SWAP_FUEL = .ok u ∧
      (if aToB then u.amountB ≤ s.vaultB else u.amountA ≤ s.vaultA) ∧
      s' = { s with pool := updateAfterSwap s.pool u aToB s.now, ticks := u.ticks, af := u.afInfo.or s.af,
                    vaultA := if aToB then s.vaultA + u.amountA else s.vaultA - u.amountA,
                    vaultB := if aToB then s.vaultB - u.amountB else s.vaultB + u.amountB } ∧
      outs = [u.amountA, u.amountB, u.lpFee, u.protoFee] := by
  obtain ⟨hne, h⟩ := ok_of_ite h
  split at h
  · cases h
  · rename_i u hsw
    refine ⟨fun e => hne (by rw [e]; rfl), u, hsw, ?_⟩
    obtain ⟨hv1, h⟩ := ok_of_ite h
    obtain ⟨hv2, h⟩ := ok_of_ite h
    cases h
    cases aToB
    · simp only [Bool.not_false, Bool.true_and, decide_eq_true_eq] at hv2
      refine ⟨Nat.le_of_not_gt hv2, ?_, rfl⟩
      cases u.afInfo <;> rfl
    · simp only [Bool.true_and, decide_eq_true_eq] at hv1
      refine ⟨Nat.le_of_not_gt hv1, ?_, rfl⟩
      cases u.afInfo <;> rfl

theorem histStep_crew_ok {s s' : HistState} {id i : Nat} {outs : List Nat}
    (h : histStep s (.crew id i) = .ok (s', outs)) :
    i < 3 ∧ ∃ pos, posGet s.positions id = some pos ∧
      ∀ paid, paid = min (pos.rewards.getD i {}).owed (min (s.rewardVaults.getD i 0) U64_MAX) →
      s' = { s with positions := posReplace s.positions id
                      { pos with rewards := pos.rewards.set i { (pos.rewards.getD i {}) with owed := (pos.rewards.getD i {}).owed - paid } },
                    rewardVaults := s.rewardVaults.set i (s.rewardVaults.getD i 0 - paid) } ∧
      outs = [paid] := by
  obtain ⟨hi, h⟩ := ok_of_ite h
  split at h
  · cases h
  · rename_i pos hpos
    refine ⟨Nat.lt_of_not_ge hi, pos, hpos, ?_⟩
    intro paid hpaid
    have hmin : ∀ a b : Nat, (if a > b then (b, a - b) else (a, 0)) = (min a b, a - min a b) := by
      intro a b
      split
      · rw [Nat.min_eq_right (by omega)]
      · rw [Nat.min_eq_left (by omega), Nat.sub_self]
    simp only [] at h
    rw [hmin] at h
    cases h
    subst hpaid
    exact ⟨rfl, rfl⟩

theorem histStep_reward_err (s : HistState) (i e t : Nat) : histStep s (.reward i e t) = .error .Other := rfl

/-- What the operations other than a swap and a liquidity change leave alone: the tick map, the
    adaptive-fee state and everything in the pool but the reward infos, their timestamp and the
    protocol fees.  The reward infos stay or are settled to now; the positions stay, or one is
    replaced by one of the same liquidity and range, or an empty one is opened on usable ticks. -/
structure Quiet (s s' : HistState) : Prop where
  ticks : s'.ticks = s.ticks
  af : s'.af = s.af
  pool : s'.pool = { s.pool with rewards := s'.pool.rewards, rewardTs := s'.pool.rewardTs,
                                 pfA := s'.pool.pfA, pfB := s'.pool.pfB }
  rewards : s'.pool.rewards = s.pool.rewards ∨ nextRewardInfos s.pool s.now = .ok s'.pool.rewards
  positions : s'.positions = s.positions ∨
    (∃ id old new, posGet s.positions id = some old ∧ s'.positions = posReplace s.positions id new ∧
      new.liq = old.liq ∧ new.lower = old.lower ∧ new.upper = old.upper) ∨
    (∃ id new, posGet s.positions id = none ∧ s'.positions = posSet s.positions id new ∧ new.liq = 0 ∧
      isUsableTick new.lower s.pool.ts = true ∧ isUsableTick new.upper s.pool.ts = true ∧ new.lower < new.upper)

theorem histStep_cases {s s' : HistState} {op : HistOp} {outs : List Nat} (h : histStep s op = .ok (s', outs)) :
    (∃ amount limit isInput aToB arrays, op = .swap amount limit isInput aToB arrays) ∨
    (∃ id amount positive, op = .modify id amount positive) ∨ Quiet s s' := by
  cases op with
  | swap amount limit isInput aToB arrays => exact Or.inl ⟨_, _, _, _, _, rfl⟩
  | modify id amount positive => exact Or.inr (Or.inl ⟨_, _, _, rfl⟩)
  | reward i e t => cases h
  | openPos id lo hi =>
    obtain ⟨hl, hu, hlt, _, hn, rfl, _⟩ := histStep_open_ok h
    exact Or.inr (Or.inr ⟨rfl, rfl, rfl, Or.inl rfl, Or.inr (Or.inr ⟨id, _, hn, rfl, rfl, hl, hu, hlt⟩)⟩)
  | upd id =>
    obtain ⟨pos, u, hpos, hu, rfl, _⟩ := histStep_upd_ok h
    obtain ⟨_, hrw, _, _, _, hpu⟩ := calcModify_ok hu
    obtain ⟨liq, hl, hpu⟩ := nextPositionUpdate_ok hpu
    have hliq : liq = pos.liq := by have := (addLiquidityDelta_ok hl).1; omega
    refine Or.inr (Or.inr ⟨rfl, rfl, rfl, Or.inr hrw, Or.inr (Or.inl ⟨id, pos, _, hpos, rfl, ?_⟩)⟩)
    rw [hpu]
    exact ⟨hliq, rfl, rfl⟩
  | cfees id =>
    obtain ⟨pos, hpos, _, _, rfl, _⟩ := histStep_cfees_ok h
    exact Or.inr (Or.inr ⟨rfl, rfl, rfl, Or.inl rfl, Or.inr (Or.inl ⟨id, pos, _, hpos, rfl, rfl, rfl, rfl⟩)⟩)
  | crew id i =>
    obtain ⟨_, pos, hpos, hs⟩ := histStep_crew_ok h
    obtain ⟨rfl, _⟩ := hs _ rfl
    exact Or.inr (Or.inr ⟨rfl, rfl, rfl, Or.inl rfl, Or.inr (Or.inl ⟨id, pos, _, hpos, rfl, rfl, rfl, rfl⟩)⟩)
  | cproto =>
    obtain ⟨_, _, rfl, _⟩ := histStep_cproto_ok h
    exact Or.inr (Or.inr ⟨rfl, rfl, rfl, Or.inl rfl, Or.inl rfl⟩)
  | clock now =>
    obtain ⟨rfl, _⟩ := histStep_clock_ok h
    exact Or.inr (Or.inr ⟨rfl, rfl, rfl, Or.inl rfl, Or.inl rfl⟩)

/-- The reward configuration commits in three stages and stops at the first failure: reward `i` is
    initialised if it is not yet (allowed only for the lowest uninitialised index), its vault is
    topped up, and, if the vault then holds a day of the new emissions, all rewards are settled to
    now and the emission rate of reward `i` is set. -/
theorem histReward_eq (s : HistState) (i e t : Nat) :
    (∃ er, histReward s i e t = (s, .error er)) ∨
    (i < 3 ∧ ∃ r1,
      (((s.pool.rewards.getD i {}).initialized = true ∧ r1 = s.pool.rewards) ∨
       ((s.pool.rewards.getD i {}).initialized = false ∧
         r1 = s.pool.rewards.set i { (s.pool.rewards.getD i {}) with initialized := true })) ∧
      ((∃ er, histReward s i e t =
          ({ s with pool := { s.pool with rewards := r1 },
                    rewardVaults := s.rewardVaults.set i (s.rewardVaults.getD i 0 + t) }, .error er)) ∨
       ∃ perDay next, checkedMulShiftRightRoundUpIf 86400 e false = .ok perDay ∧
         perDay ≤ (s.rewardVaults.set i (s.rewardVaults.getD i 0 + t)).getD i 0 ∧
         nextRewardInfos { s.pool with rewards := r1 } s.now = .ok next ∧
         histReward s i e t =
          ({ s with pool := { s.pool with rewards := next.set i { (next.getD i {}) with emissions := e }, rewardTs := s.now },
                    rewardVaults := s.rewardVaults.set i (s.rewardVaults.getD i 0 + t) }, .ok ()))) := by
  generalize hr : histReward s i e t = r
  unfold histReward at hr
  rcases ite_cases hr with ⟨_, hr⟩ | ⟨hi, hr⟩
  · exact Or.inl ⟨_, hr.symm⟩
  · simp only [] at hr
    split at hr
    · exact Or.inl ⟨_, hr.symm⟩
    · rename_i s1 hs1
      refine Or.inr ⟨Nat.lt_of_not_ge hi, ?_⟩
      have h1 : ∃ r1, (((s.pool.rewards.getD i {}).initialized = true ∧ r1 = s.pool.rewards) ∨
          ((s.pool.rewards.getD i {}).initialized = false ∧
            r1 = s.pool.rewards.set i { (s.pool.rewards.getD i {}) with initialized := true })) ∧
          s1 = { s with pool := { s.pool with rewards := r1 } } := by
        rcases ite_cases hs1 with ⟨hin, hs1⟩ | ⟨hin, hs1⟩
        · cases hs1; exact ⟨_, Or.inl ⟨hin, rfl⟩, rfl⟩
        · rcases ite_cases hs1 with ⟨_, hs1⟩ | ⟨_, hs1⟩
          · cases hs1; exact ⟨_, Or.inr ⟨Bool.eq_false_iff.mpr hin, rfl⟩, rfl⟩
          · cases hs1
      obtain ⟨r1, hr1, rfl⟩ := h1
      refine ⟨r1, hr1, ?_⟩
      split at hr
      · exact Or.inl ⟨_, hr.symm⟩
      · rename_i perDay hpd
        rcases ite_cases hr with ⟨_, hr⟩ | ⟨hv, hr⟩
        · exact Or.inl ⟨_, hr.symm⟩
        · split at hr
          · exact Or.inl ⟨_, hr.symm⟩
          · rename_i next hn
            exact Or.inr ⟨perDay, next, hpd, Nat.le_of_not_gt hv, hn, hr.symm⟩

theorem histReward_cases (s : HistState) (i e t : Nat) :
    (histReward s i e t).1 = s ∨
    (i < 3 ∧ ∃ r1,
      (((s.pool.rewards.getD i {}).initialized = true ∧ r1 = s.pool.rewards) ∨
       ((s.pool.rewards.getD i {}).initialized = false ∧
         r1 = s.pool.rewards.set i { (s.pool.rewards.getD i {}) with initialized := true })) ∧
      ((histReward s i e t).1 =
          { s with pool := { s.pool with rewards := r1 },
                   rewardVaults := s.rewardVaults.set i (s.rewardVaults.getD i 0 + t) } ∨
       ∃ next, nextRewardInfos { s.pool with rewards := r1 } s.now = .ok next ∧
         (histReward s i e t).1 =
          { s with pool := { s.pool with rewards := next.set i { (next.getD i {}) with emissions := e }, rewardTs := s.now },
                   rewardVaults := s.rewardVaults.set i (s.rewardVaults.getD i 0 + t) })) := by
  rcases histReward_eq s i e t with ⟨er, h⟩ | ⟨hi, r1, hr1, ⟨er, h⟩ | ⟨perDay, next, _, _, hn, h⟩⟩
  · exact Or.inl (by rw [h])
  · exact Or.inr ⟨hi, r1, hr1, Or.inl (by rw [h])⟩
  · exact Or.inr ⟨hi, r1, hr1, Or.inr ⟨next, hn, by rw [h]⟩⟩

theorem histReward_frame (s : HistState) (i e t : Nat) :
    ∃ r ts v, (histReward s i e t).1 = { s with pool := { s.pool with rewards := r, rewardTs := ts }, rewardVaults := v } := by
  rcases histReward_cases s i e t with h | ⟨_, r1, _, h | ⟨next, _, h⟩⟩
  · exact ⟨_, _, _, h⟩
  · exact ⟨_, _, _, h⟩
  · exact ⟨_, _, _, h⟩

end WP
