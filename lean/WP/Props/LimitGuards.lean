import WP.Gen.PinoSpecs
/-
  C08 / C16 — the caller's limits are enforced by every live liquidity handler (the six Pinocchio handlers the
  entrypoint routes to).  The guard lists are regenerated from the handlers' source on every run
  (tools/extract.py -> WP/Gen/PinoSpecs.lean); each row below must be present: zero liquidity is refused, an
  increase is refused when the (transfer-fee-included) cost of either token exceeds its maximum, a decrease /
  reposition when the (transfer-fee-excluded) proceeds of either token fall below its minimum, and the
  by-token-amounts increase outside its price window.  What the guards compare is modelled and executed
  (families ltd / est, history ops xliq, xliqt, xrepo with limits exactly at and one unit beyond the amounts);
  this table is what notices a guard that disappears from a handler.
-/
namespace WP.LimitGuards
open WP WP.Gen

def limitRows : List (String × String) := [
  ("pinocchio/instructions/decrease_liquidity.rs", "reject: data.liquidity_amount == 0 => LiquidityZero"),
  ("pinocchio/instructions/decrease_liquidity.rs", "reject: delta_a < data.token_min_a || delta_b < data.token_min_b => TokenMinSubceeded"),
  ("pinocchio/instructions/decrease_liquidity_v2.rs", "reject: data.liquidity_amount == 0 => LiquidityZero"),
  ("pinocchio/instructions/decrease_liquidity_v2.rs", "reject: transfer_fee_excluded_delta_a.amount < data.token_min_a => TokenMinSubceeded"),
  ("pinocchio/instructions/decrease_liquidity_v2.rs", "reject: transfer_fee_excluded_delta_b.amount < data.token_min_b => TokenMinSubceeded"),
  ("pinocchio/instructions/increase_liquidity.rs", "reject: data.liquidity_amount == 0 => LiquidityZero"),
  ("pinocchio/instructions/increase_liquidity.rs", "reject: delta_a > data.token_max_a || delta_b > data.token_max_b => TokenMaxExceeded"),
  ("pinocchio/instructions/increase_liquidity_by_token_amounts_v2.rs", "reject: current_sqrt_price < min_sqrt_price || current_sqrt_price > max_sqrt_price => PriceSlippageOutOfBounds"),
  ("pinocchio/instructions/increase_liquidity_by_token_amounts_v2.rs", "reject: liquidity_amount == 0 => LiquidityZero"),
  ("pinocchio/instructions/increase_liquidity_by_token_amounts_v2.rs", "reject: transfer_fee_included_delta_a.amount > token_max_a => TokenMaxExceeded"),
  ("pinocchio/instructions/increase_liquidity_by_token_amounts_v2.rs", "reject: transfer_fee_included_delta_b.amount > token_max_b => TokenMaxExceeded"),
  ("pinocchio/instructions/increase_liquidity_v2.rs", "reject: data.liquidity_amount == 0 => LiquidityZero"),
  ("pinocchio/instructions/increase_liquidity_v2.rs", "reject: transfer_fee_included_delta_a.amount > data.token_max_a => TokenMaxExceeded"),
  ("pinocchio/instructions/increase_liquidity_v2.rs", "reject: transfer_fee_included_delta_b.amount > data.token_max_b => TokenMaxExceeded"),
  ("pinocchio/instructions/reposition_liquidity_v2.rs", "reject: transfer_fee_excluded_amount_a.amount < existing_range_token_min_a => TokenMinSubceeded"),
  ("pinocchio/instructions/reposition_liquidity_v2.rs", "reject: transfer_fee_excluded_amount_b.amount < existing_range_token_min_b => TokenMinSubceeded")]

def limitOk (r : String × String) : Bool :=
  match pinoSpecs.find? (·.file == r.1) with
  | none => false
  | some s => s.core.any (· == r.2)

/-- both facts about `pinoSpecs` in one kernel evaluation (they compare the same file names) -/
theorem tables_ok :
    limitRows.all limitOk = true ∧ (pinoSpecs.all fun s => limitRows.any fun r => r.1 == s.file) = true := by
  decide +kernel

theorem limit_rows_met : limitRows.all limitOk = true := tables_ok.1

-- every one of the six live handlers appears in the table
theorem every_handler_listed : (pinoSpecs.all fun s => limitRows.any fun r => r.1 == s.file) = true := tables_ok.2

end WP.LimitGuards
