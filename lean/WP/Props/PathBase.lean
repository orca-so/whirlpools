import WP.Props.C05
import WP.Props.C09
import WP.Props.C10
import WP.Props.C02
import WP.Props.C06
import WP.Props.C03
/-
  What the path theorems (FeePath.lean, SwapPath.lean) are stated in: the consistency `TP` of the current
  tick index with the price (`sp t ≤ p ≤ sp (t + 1)`: the tick of the price, or one below it when the price sits
  exactly on a tick just crossed downwards; `ti` is the adjoint of `sp`: C09) and the facts `TickFacts` that tie every tick's
  net / gross liquidity and initialized flag to the list of positions (C05).
-/
namespace WP.Path
open WP WP.Gen WP.C05 WP.C10

/-! ### tick index ↔ price consistency -/

/-- the current tick index `t` and price `p` of a pool: `t` is the tick of `p`, or `p` sits exactly on
    the price of `t + 1` (after crossing that tick leftwards) -/
def TP (t : Int) (p : Nat) : Prop :=
  (MIN_TICK_INDEX ≤ t ∧ t ≤ MAX_TICK_INDEX ∧ sp t ≤ p ∧ (t < MAX_TICK_INDEX → p ≤ sp (t + 1)) ∧ (t = MAX_TICK_INDEX → p = sp t)) ∨
  (t = MIN_TICK_INDEX - 1 ∧ p = sp MIN_TICK_INDEX)

theorem sp_min : sp MIN_TICK_INDEX = MIN_SQRT_PRICE_X64 := C09.sp_ends.1
theorem sp_max : sp MAX_TICK_INDEX = MAX_SQRT_PRICE_X64 := C09.sp_ends.2
theorem min_le_max : MIN_TICK_INDEX ≤ MAX_TICK_INDEX := by decide

theorem sp_in_bounds (t : Int) (h1 : MIN_TICK_INDEX ≤ t) (h2 : t ≤ MAX_TICK_INDEX) :
    MIN_SQRT_PRICE_X64 ≤ sp t ∧ sp t ≤ MAX_SQRT_PRICE_X64 := by
  constructor
  · rw [← sp_min]; exact C09.sp_le _ _ (Int.le_refl _) h1 h2
  · rw [← sp_max]; exact C09.sp_le _ _ h1 h2 (Int.le_refl _)

theorem lt_of_sp_lt (s t : Int) (hs2 : s ≤ MAX_TICK_INDEX) (ht1 : MIN_TICK_INDEX ≤ t) (h : sp s < sp t) : s < t :=
  Int.lt_of_not_ge fun c => Nat.not_le_of_lt h (C09.sp_le t s ht1 c hs2)

theorem ti_ge (p : Nat) (t : Int) (h1 : MIN_SQRT_PRICE_X64 ≤ p) (h2 : p ≤ MAX_SQRT_PRICE_X64)
    (ht2 : t ≤ MAX_TICK_INDEX) (h : sp t ≤ p) : t ≤ ti p := by
  obtain ⟨a, b, _, d⟩ := C09.ti_spec p h1 h2
  rcases Int.lt_or_eq_of_le b with hm | hm
  · exact Int.lt_add_one_iff.mp (lt_of_sp_lt t (ti p + 1) ht2 (Int.le_trans a (Int.le_add_one (Int.le_refl _)))
      (Nat.lt_of_le_of_lt h (d hm)))
  · rw [hm]; exact ht2

theorem ti_lt (p : Nat) (t : Int) (h1 : MIN_SQRT_PRICE_X64 ≤ p) (h2 : p ≤ MAX_SQRT_PRICE_X64)
    (ht1 : MIN_TICK_INDEX ≤ t) (h : p < sp t) : ti p < t := by
  obtain ⟨_, b, c, _⟩ := C09.ti_spec p h1 h2
  exact lt_of_sp_lt (ti p) t b ht1 (Nat.lt_of_le_of_lt c h)

theorem ti_le (p : Nat) (t : Int) (h1 : MIN_SQRT_PRICE_X64 ≤ p) (h2 : p ≤ MAX_SQRT_PRICE_X64)
    (ht1 : MIN_TICK_INDEX ≤ t) (h : p ≤ sp t) : ti p ≤ t := by
  obtain ⟨_, b, c, _⟩ := C09.ti_spec p h1 h2
  exact Int.le_of_not_gt fun hlt => Nat.not_lt_of_le (Nat.le_trans c h) (C09.sp_lt t (ti p) ht1 hlt b)

theorem TP_ti (p : Nat) (h1 : MIN_SQRT_PRICE_X64 ≤ p) (h2 : p ≤ MAX_SQRT_PRICE_X64) : TP (ti p) p := by
  obtain ⟨a, b, c, d⟩ := C09.ti_spec p h1 h2
  refine Or.inl ⟨a, b, c, fun h => Nat.le_of_lt (d h), fun he => ?_⟩
  -- ti p = MAX: sp MAX ≤ p ≤ MAX_SQRT = sp MAX
  rw [he, sp_max] at c ⊢
  exact Nat.le_antisymm h2 c

theorem TP_range (t : Int) (p : Nat) (h : TP t p) : MIN_TICK_INDEX - 1 ≤ t ∧ t ≤ MAX_TICK_INDEX := by
  have := min_le_max
  rcases h with ⟨a, b, _⟩ | ⟨a, _⟩ <;> omega

theorem TP_le_of_le (t i : Int) (p : Nat) (tp : TP t p) (hi : MIN_TICK_INDEX ≤ i) (h : i ≤ t) : sp i ≤ p := by
  rcases tp with ⟨_, b, c, _, _⟩ | ⟨a, _⟩
  · exact Nat.le_trans (C09.sp_le i t hi h b) c
  · omega

theorem TP_le_of_lt (t i : Int) (p : Nat) (tp : TP t p) (hi : i ≤ MAX_TICK_INDEX) (h : t < i) : p ≤ sp i := by
  rcases tp with ⟨a, _, _, d, _⟩ | ⟨a, b⟩
  · exact Nat.le_trans (d (by omega)) (C09.sp_le (t + 1) i (by omega) (by omega) hi)
  · rw [b]; exact C09.sp_le _ _ (Int.le_refl _) (by omega) hi

theorem TP_price_bounds (t : Int) (p : Nat) (h : TP t p) : MIN_SQRT_PRICE_X64 ≤ p ∧ p ≤ MAX_SQRT_PRICE_X64 := by
  have hr := TP_range t p h
  constructor
  · rcases h with ⟨a, b, c, _⟩ | ⟨_, b⟩
    · exact Nat.le_trans (sp_in_bounds t a b).1 c
    · rw [b, sp_min]
  · rcases Int.lt_or_eq_of_le hr.2 with hm | hm
    · rw [← sp_max]; exact TP_le_of_lt t _ p h (Int.le_refl _) hm
    · rcases h with ⟨a, b, _, _, e⟩ | ⟨a, _⟩
      · rw [e hm]; exact (sp_in_bounds t a b).2
      · have := min_le_max; omega

theorem ti_between_down (t n : Int) (p p' : Nat) (h : TP t p) (hn1 : MIN_TICK_INDEX ≤ n) (hn2 : n ≤ MAX_TICK_INDEX)
    (h1 : sp n ≤ p') (h2 : p' ≤ p) (hne : p' ≠ p) : n ≤ ti p' ∧ ti p' ≤ t := by
  have hr := TP_range t p h
  have hp'1 : MIN_SQRT_PRICE_X64 ≤ p' := Nat.le_trans (sp_in_bounds n hn1 hn2).1 h1
  have hp'2 : p' ≤ MAX_SQRT_PRICE_X64 := Nat.le_trans h2 (TP_price_bounds t p h).2
  refine ⟨ti_ge p' n hp'1 hp'2 hn2 h1, ?_⟩
  rcases Int.lt_or_eq_of_le hr.2 with hm | hm
  · -- p' < p ≤ sp (t + 1)
    have := ti_lt p' (t + 1) hp'1 hp'2 (by omega)
      (Nat.lt_of_lt_of_le (Nat.lt_of_le_of_ne h2 hne) (TP_le_of_lt t (t + 1) p h (by omega) (Int.lt_add_one_iff.mpr (Int.le_refl _))))
    omega
  · rw [hm]; exact (C09.ti_spec p' hp'1 hp'2).2.1

theorem ti_between_up (t n : Int) (p p' : Nat) (h : TP t p) (hn1 : MIN_TICK_INDEX ≤ n) (hn2 : n ≤ MAX_TICK_INDEX)
    (h1 : p ≤ p') (h2 : p' < sp n) : t ≤ ti p' ∧ ti p' < n := by
  have hp'1 : MIN_SQRT_PRICE_X64 ≤ p' := Nat.le_trans (TP_price_bounds t p h).1 h1
  have hp'2 : p' ≤ MAX_SQRT_PRICE_X64 := Nat.le_trans (Nat.le_of_lt h2) (sp_in_bounds n hn1 hn2).2
  refine ⟨?_, ti_lt p' n hp'1 hp'2 hn1 h2⟩
  by_cases hm : MIN_TICK_INDEX ≤ t
  · exact ti_ge p' t hp'1 hp'2 (TP_range t p h).2 (Nat.le_trans (TP_le_of_le t t p h hm (Int.le_refl _)) h1)
  · have := (C09.ti_spec p' hp'1 hp'2).1
    omega

theorem TP_cross_down (n : Int) (hn1 : MIN_TICK_INDEX ≤ n) (hn2 : n ≤ MAX_TICK_INDEX) : TP (n - 1) (sp n) := by
  rcases Int.lt_or_eq_of_le hn1 with h | h
  · refine Or.inl ⟨by omega, by omega, C09.sp_le _ _ (by omega) (by omega) hn2, fun _ => ?_, fun he => by omega⟩
    rw [Int.sub_add_cancel]
  · exact Or.inr ⟨by omega, by rw [h]⟩

theorem TP_cross_up (n : Int) (hn1 : MIN_TICK_INDEX ≤ n) (hn2 : n ≤ MAX_TICK_INDEX) : TP n (sp n) :=
  Or.inl ⟨hn1, hn2, Nat.le_refl _, fun h => C09.sp_le _ _ hn1 (by omega) (by omega), fun _ => rfl⟩


/-! ### the tick map relative to the positions -/

structure TickFacts (ticks : TickMap) (ps : List (Nat × PositionD)) (ts : Nat) : Prop where
  net : ∀ i, (ticks.get i).net = sumBy (netContrib i) ps
  gross : ∀ i, ((ticks.get i).gross : Int) = sumBy (grossContrib i) ps
  init : ∀ i, (ticks.get i).initialized = decide ((ticks.get i).gross > 0)
  ordered : ∀ kp ∈ ps, kp.2.lower < kp.2.upper
  grid : ∀ kp ∈ ps, kp.2.lower % (ts : Int) = 0 ∧ kp.2.upper % (ts : Int) = 0 ∧
    MIN_TICK_INDEX ≤ kp.2.lower ∧ kp.2.upper ≤ MAX_TICK_INDEX

theorem gross_zero_of_no_bound (i : Int) : ∀ (ps : List (Nat × PositionD)),
    (∀ kp ∈ ps, kp.2.lower ≠ i ∧ kp.2.upper ≠ i) → sumBy (grossContrib i) ps = 0 := by
  intro ps
  induction ps with
  | nil => intro _; rfl
  | cons hd tl ih =>
    intro h
    obtain ⟨k, w⟩ := hd
    simp only [sumBy]
    rw [ih (fun kp hk => h kp (List.mem_cons_of_mem _ hk))]
    have := h (k, w) List.mem_cons_self
    simp only [] at this
    unfold grossContrib
    simp [this.1, this.2]

theorem init_grid (ticks : TickMap) (ps : List (Nat × PositionD)) (ts : Nat) (tf : TickFacts ticks ps ts) (i : Int)
    (h : initAt ticks i = true) : i % (ts : Int) = 0 ∧ MIN_TICK_INDEX ≤ i ∧ i ≤ MAX_TICK_INDEX := by
  -- initialized ⇒ gross > 0 ⇒ some position is bounded by i
  have hg : sumBy (grossContrib i) ps ≠ 0 := by
    intro h0
    have h1 := tf.init i
    have h2 := tf.gross i
    unfold initAt at h
    rw [h] at h1
    have : (ticks.get i).gross > 0 := of_decide_eq_true h1.symm
    omega
  have hex : ∃ kp ∈ ps, kp.2.lower = i ∨ kp.2.upper = i := by
    by_cases hh : ∃ kp ∈ ps, kp.2.lower = i ∨ kp.2.upper = i
    · exact hh
    · exfalso; apply hg
      apply gross_zero_of_no_bound
      intro kp hk
      constructor
      · intro e; exact hh ⟨kp, hk, Or.inl e⟩
      · intro e; exact hh ⟨kp, hk, Or.inr e⟩
  obtain ⟨kp, hk, hb⟩ := hex
  have hgrid := tf.grid kp hk
  have hord := tf.ordered kp hk
  rcases hb with e | e <;> rw [← e] <;> refine ⟨by omega, by omega, by omega⟩

theorem gross_zero_of_not_init (ticks : TickMap) (ps : List (Nat × PositionD)) (ts : Nat) (tf : TickFacts ticks ps ts) (i : Int)
    (h : initAt ticks i = false) : sumBy (grossContrib i) ps = 0 := by
  have h1 := tf.init i
  have h2 := tf.gross i
  unfold initAt at h
  rw [h] at h1
  have : ¬ (ticks.get i).gross > 0 := of_decide_eq_false h1.symm
  omega

theorem cover_const (ticks : TickMap) (ps : List (Nat × PositionD)) (ts : Nat) (tf : TickFacts ticks ps ts) (a b : Int) (hab : a ≤ b)
    (h : ∀ x, a < x → x ≤ b → x % (ts : Int) = 0 → initAt ticks x = false) :
    sumBy (inRangeLiq a) ps = sumBy (inRangeLiq b) ps := by
  have := range_const ps tf.ordered (b - a).toNat a (by
    intro i h1 h2
    have h2' : i ≤ b := by omega
    cases hi : initAt ticks i with
    | false => exact gross_zero_of_not_init ticks ps ts tf i hi
    | true =>
      have := init_grid ticks ps ts tf i hi
      have := h i h1 h2' this.1
      rw [hi] at this; cases this)
  have e : a + ((b - a).toNat : Int) = b := by omega
  rw [e] at this
  exact this



end WP.Path
