import WP.Model.PinoModify
import WP.Props.PositionRewards
/-
  C12 / C11: the Pinocchio port's reward-growth rule ("skip a reward whose emissions are zero") gives the Anchor
  manager's result ("skip a reward that is not initialized") on every pool in which an uninitialized reward has no
  emissions — and that holds at every state reachable by any history: emissions are only ever set on an initialized
  reward, and settling never changes a reward's flag or rate.
-/
namespace WP.PinoRewards
open WP WP.Gen WP.Reach

/-- an uninitialized reward has no emissions; growths are u128 -/
def RewardsOK (rs : List RewardInfo) : Prop :=
  ∀ r ∈ rs, (r.initialized = false → r.emissions = 0) ∧ r.growth < TWO128

theorem wadd_zero (g : Nat) (h : g < TWO128) : wadd g 0 = g := by
  unfold wadd; rw [Nat.add_zero]; exact Nat.mod_eq_of_lt h

theorem mulDivOr0_zero (a d : Nat) (hd : d ≠ 0) : mulDivOr0 a 0 d = 0 := by
  unfold mulDivOr0 checkedMulDiv checkedMulDivRoundUpIf
  simp only [if_neg hd, Nat.mul_zero, if_neg (Nat.not_lt_zero U128_MAX), Nat.zero_div, Nat.zero_mod, Nat.lt_irrefl, decide_false,
    Bool.and_false, Bool.false_eq_true, if_false]

/-- **the two reward-growth rules agree** wherever an uninitialized reward has no emissions -/
theorem pino_reward_growths_eq (p : PoolD) (ts : Nat) (h : RewardsOK p.rewards) :
    pinoNextRewardGrowths p ts = (nextRewardInfos p ts).map (fun l => l.map (·.growth)) := by
  unfold pinoNextRewardGrowths nextRewardInfos
  by_cases c1 : ts < p.rewardTs
  · rw [if_pos c1, if_pos c1]; rfl
  · rw [if_neg c1, if_neg c1]
    by_cases c2 : (decide (p.liq = 0) || decide (ts = p.rewardTs)) = true
    · rw [if_pos c2, if_pos c2]; rfl
    · rw [if_neg c2, if_neg c2]
      simp only [Bool.or_eq_true, decide_eq_true_eq, not_or] at c2
      simp only [Except.map, List.map_map]
      congr 1
      apply List.map_congr_left
      intro r hr
      obtain ⟨h1, h2⟩ := h r hr
      simp only [Function.comp]
      cases hi : r.initialized with
      | false =>
        simp only [Bool.not_false, if_true]
        rw [h1 hi]; simp
      | true =>
        simp only [Bool.not_true, Bool.false_eq_true, if_false]
        by_cases he : r.emissions = 0
        · rw [if_pos he, he, mulDivOr0_zero _ _ c2.1, wadd_zero _ h2]
        · rw [if_neg he]

/-! ### the hypothesis holds at every reachable state -/

theorem nextRewardInfos_ok (p : PoolD) (ts : Nat) (rs : List RewardInfo) (h : RewardsOK p.rewards)
    (hn : nextRewardInfos p ts = .ok rs) : RewardsOK rs := by
  obtain ⟨_, rfl | ⟨_, rfl⟩⟩ := C11.nextRewardInfos_inv hn
  · exact h
  · intro r' hr'
    obtain ⟨r, hr, rfl⟩ := List.mem_map.mp hr'
    obtain ⟨h1, h2⟩ := h r hr
    cases hi : r.initialized with
    | false => simp only [hi, Bool.false_eq_true, if_false]; exact ⟨fun _ => h1 hi, h2⟩
    | true => simp only [if_true]; exact ⟨fun c => (nomatch c), C07.wadd_lt _ _⟩

theorem next_length (p : PoolD) (ts : Nat) (next : List RewardInfo) (hn : nextRewardInfos p ts = .ok next) :
    next.length = p.rewards.length := by
  obtain ⟨_, rfl | ⟨_, rfl⟩⟩ := C11.nextRewardInfos_inv hn
  · rfl
  · exact List.length_map _

theorem next_init (p : PoolD) (ts : Nat) (next : List RewardInfo) (i : Nat) (hn : nextRewardInfos p ts = .ok next) :
    (next.getD i {}).initialized = (p.rewards.getD i {}).initialized :=
  (settle_growth p ts next i hn).1

theorem set_ok (rs : List RewardInfo) (i : Nat) (r : RewardInfo) (h : RewardsOK rs)
    (hr : i < rs.length → (r.initialized = false → r.emissions = 0) ∧ r.growth < TWO128) : RewardsOK (rs.set i r) := by
  by_cases hi : i < rs.length
  · intro x hx
    rcases List.mem_or_eq_of_mem_set hx with a | a
    · exact h x a
    · rw [a]; exact hr hi
  · rw [List.set_eq_of_length_le (Nat.not_lt.mp hi)]; exact h

theorem swap_rewards {p : PoolD} {ticks : TickMap} {arrays : List Int} {amount limit : Nat} {isInput aToB : Bool} {now : Nat}
    {af : Option AfInfo} {fuel : Nat} {u : PostSwap}
    (h : swap p ticks arrays amount limit isInput aToB now af fuel = .ok u) : nextRewardInfos p now = .ok u.rewards := by
  obtain ⟨rewards, _, _, _, hrw, _, _, hfin⟩ := swap_ok.mp h
  obtain ⟨_, _, _, rfl⟩ := swapFinish_ok.mp hfin
  exact hrw

theorem apply_keeps_rewards (s : HistState) (op : HistOp) (h : RewardsOK s.pool.rewards) :
    RewardsOK (histApply s op).pool.rewards := by
  have hg : ∀ rs : List RewardInfo, RewardsOK rs → ∀ r ∈ rs, r.growth < TWO128 := fun rs hrs r hr => (hrs r hr).2
  refine histApply_ind (fun st => RewardsOK st.pool.rewards) s op h (fun i e t _ => ?_) (fun s' outs hs => ?_)
  · rcases histReward_cases s i e t with hh | ⟨_, R, hR, hh⟩
    · rw [hh]
      exact h
    · -- after the first stage the rule holds and reward `i`, if there is one, is initialized
      have hR' : RewardsOK R ∧ (i < R.length → (R.getD i {}).initialized = true) := by
        rcases hR with ⟨hi, rfl⟩ | ⟨_, rfl⟩
        · exact ⟨h, fun _ => hi⟩
        · refine ⟨set_ok _ _ _ h (fun _ => ⟨fun c => (nomatch c), Growth.reward_getD_lt _ (hg _ h) i⟩), fun hl => ?_⟩
          rw [List.length_set] at hl
          simp [List.getD, hl]
      obtain ⟨hRok, hinit⟩ := hR'
      rcases hh with hh | ⟨next, hn, hh⟩ <;> rw [hh]
      · exact hRok
      · have hok := nextRewardInfos_ok _ _ next hRok hn
        refine set_ok _ _ _ hok (fun hi => ⟨fun c => ?_, Growth.reward_getD_lt _ (hg _ hok) i⟩)
        -- emissions are only ever written on an initialized reward, and settling keeps the flag
        rw [next_length _ _ _ hn] at hi
        have c' : (next.getD i {}).initialized = false := c
        rw [next_init _ _ next i hn, hinit hi] at c'
        cases c'
  · rcases histStep_cases hs with ⟨amount, limit, isInput, aToB, arrays, rfl⟩ | ⟨j, a, b, rfl⟩ | q
    · obtain ⟨_, u, hu, _, rfl, _⟩ := histStep_swap_ok hs
      show RewardsOK (updateAfterSwap s.pool u aToB s.now).rewards
      rw [updateAfterSwap_eq]
      exact nextRewardInfos_ok _ _ _ h (swap_rewards hu)
    · obtain ⟨_, _, pos, u, da, db, _, hu, _, _, rfl, _⟩ := histStep_modify_ok hs
      exact nextRewardInfos_ok _ _ _ h (calcModify_ok hu).2.1
    · rcases q.rewards with f | f
      · rw [f]
        exact h
      · exact nextRewardInfos_ok _ _ _ h f

/-- **at every reachable state** the Pinocchio and the Anchor reward-growth rules give the same three growths -/
theorem pino_rewards_reachable (ops : List HistOp) (s0 : HistState) (h0 : RewardsOK s0.pool.rewards) (ts : Nat) :
    pinoNextRewardGrowths (ops.foldl histApply s0).pool ts =
      (nextRewardInfos (ops.foldl histApply s0).pool ts).map (fun l => l.map (·.growth)) := by
  apply pino_reward_growths_eq
  induction ops generalizing s0 with
  | nil => exact h0
  | cons op rest ih => exact ih (histApply s0 op) (apply_keeps_rewards s0 op h0)

/-- a fresh pool (no reward initialized, no emissions) satisfies the rule; and the rule is not empty: a reward that
    is initialized, has emitted, and is now paused (emissions 0) is exactly where the two texts differ -/
example : RewardsOK [{}, {}, {}] := by
  intro r hr
  simp at hr
  subst hr
  exact ⟨fun _ => rfl, by decide +kernel⟩

def exPaused : PoolD :=
  { ts := 64, feeRate := 3000, protoRate := 300, price := 18446744073709551616, tick := 0, liq := 1000, rewardTs := 10,
    rewards := [{ initialized := true, emissions := 0, growth := 777 },
                { initialized := true, emissions := 18446744073709551616, growth := 5 }, {}] }

example : let p := exPaused
    (pinoNextRewardGrowths p 20 = .ok [777, 184467440737095521, 0] ∧
     (nextRewardInfos p 20).map (fun l => l.map (·.growth)) = .ok [777, 184467440737095521, 0]) = True := by
  decide +kernel

end WP.PinoRewards
