import WP.Model.Pool
import WP.Lemmas.Except
/-
  What the liquidity-manager functions of WP/Model/Pool.lean return when they succeed, each stated
  once, for proofs to use instead of unfolding the functions.
-/
namespace WP
open WP.Gen

theorem addLiquidityDelta_ok {l l' : Nat} {d : Int} (h : addLiquidityDelta l d = .ok l') :
    (l' : Int) = l + d ∧ (l ≤ U128_MAX → l' ≤ U128_MAX) := by
  unfold addLiquidityDelta at h
  rcases ite_cases h with ⟨h0, h⟩ | ⟨_, h⟩
  · cases h; exact ⟨by omega, id⟩
  · rcases ite_cases h with ⟨hp, h⟩ | ⟨hp, h⟩
    · rcases ite_cases h with ⟨hle, h⟩ | ⟨_, h⟩
      · cases h; exact ⟨by omega, fun _ => hle⟩
      · cases h
    · rcases ite_cases h with ⟨hle, h⟩ | ⟨_, h⟩
      · cases h; exact ⟨by omega, fun hl => by omega⟩
      · cases h

theorem checkedI128_ok {x y : Int} (h : checkedI128 x = .ok y) :
    y = x ∧ -(2 ^ 127 : Int) ≤ x ∧ x < 2 ^ 127 := by
  unfold checkedI128 at h
  split at h
  · cases h; omega
  · cases h

theorem nextWhirlpoolLiquidity_ok {p : PoolD} {upper lower : Int} {delta : Int} {l : Nat}
    (h : nextWhirlpoolLiquidity p upper lower delta = .ok l) :
    (l : Int) = p.liq + (if lower ≤ p.tick ∧ p.tick < upper then delta else 0) ∧ (p.liq ≤ U128_MAX → l ≤ U128_MAX) := by
  unfold nextWhirlpoolLiquidity at h
  split at h
  · rename_i c
    simp only [Bool.and_eq_true, decide_eq_true_eq] at c
    rw [if_pos ⟨c.2, c.1⟩]
    exact addLiquidityDelta_ok h
  · rename_i c
    simp only [Bool.and_eq_true, decide_eq_true_eq] at c
    cases h
    rw [if_neg (fun hc => c ⟨hc.2, hc.1⟩)]
    exact ⟨by omega, id⟩

/-- `next_position_modify_liquidity_update` -/
theorem nextPositionUpdate_ok {pos pu : PositionD} {delta : Int} {fiA fiB : Nat} {ri : List Nat}
    (h : nextPositionUpdate pos delta fiA fiB ri = .ok pu) :
    ∃ liq, addLiquidityDelta pos.liq delta = .ok liq ∧
      pu = { pos with liq := liq, cpA := fiA, owedA := wadd64 pos.owedA (mulShiftOr0 pos.liq (wsub fiA pos.cpA)),
                      cpB := fiB, owedB := wadd64 pos.owedB (mulShiftOr0 pos.liq (wsub fiB pos.cpB)),
                      rewards := (List.range 3).map fun i =>
                        { checkpoint := ri.getD i 0,
                          owed := wadd64 (pos.rewards.getD i {}).owed
                            (mulShiftOr0 pos.liq (wsub (ri.getD i 0) (pos.rewards.getD i {}).checkpoint)) } } := by
  unfold nextPositionUpdate at h
  simp only [] at h
  split at h
  · cases h
  · rename_i liq hl
    cases h
    exact ⟨liq, hl, rfl⟩

/-- `next_tick_modify_liquidity_update` -/
theorem tickModify_cases {t t' : TickData} {idx cur : Int} {fgA fgB : Nat} {rw : List RewardInfo} {delta : Int} {isUpper : Bool}
    (h : nextTickModifyLiquidityUpdate t idx cur fgA fgB rw delta isUpper = .ok t') :
    (delta = 0 ∧ t' = t) ∨
    (delta ≠ 0 ∧ ∃ gross, addLiquidityDelta t.gross delta = .ok gross ∧
      ((gross = 0 ∧ t' = {}) ∨
       (gross ≠ 0 ∧ ∃ net, checkedI128 (if isUpper then t.net - delta else t.net + delta) = .ok net ∧
          t' = { initialized := true, net := net, gross := gross,
                 fgoA := if t.gross = 0 then (if cur ≥ idx then fgA else 0) else t.fgoA,
                 fgoB := if t.gross = 0 then (if cur ≥ idx then fgB else 0) else t.fgoB,
                 rgo := if t.gross = 0 then (if cur ≥ idx then rw.map (·.growth) else [0, 0, 0]) else t.rgo }))) := by
  unfold nextTickModifyLiquidityUpdate at h
  rcases ite_cases h with ⟨hd, h⟩ | ⟨hd, h⟩
  · cases h; exact Or.inl ⟨hd, rfl⟩
  · refine Or.inr ⟨hd, ?_⟩
    split at h
    · cases h
    · rename_i gross hg
      refine ⟨gross, hg, ?_⟩
      rcases ite_cases h with ⟨hz, h⟩ | ⟨hz, h⟩
      · cases h; exact Or.inl ⟨hz, rfl⟩
      · refine Or.inr ⟨hz, ?_⟩
        simp only [] at h
        split at h
        · cases h
        · rename_i net hn
          cases h
          refine ⟨net, hn, ?_⟩
          by_cases c1 : t.gross = 0
          · by_cases c2 : cur ≥ idx
            · simp only [if_pos c1, if_pos c2]
            · simp only [if_pos c1, if_neg c2]
          · simp only [if_neg c1]

theorem calcModify_ok {p : PoolD} {pos : PositionD} {tl tu : TickData} {delta : Int} {now : Nat} {u : ModifyUpdate}
    (h : calculateModifyLiquidity p pos tl tu delta now = .ok u) :
    ¬ (delta = 0 ∧ pos.liq = 0) ∧
    nextRewardInfos p now = .ok u.rewards ∧
    nextWhirlpoolLiquidity p pos.upper pos.lower delta = .ok u.poolLiq ∧
    nextTickModifyLiquidityUpdate tl pos.lower p.tick p.fgA p.fgB u.rewards delta false = .ok u.tickLower ∧
    nextTickModifyLiquidityUpdate tu pos.upper p.tick p.fgA p.fgB u.rewards delta true = .ok u.tickUpper ∧
    nextPositionUpdate pos delta (nextFeeGrowthsInside p.tick tl pos.lower tu pos.upper p.fgA p.fgB).1
      (nextFeeGrowthsInside p.tick tl pos.lower tu pos.upper p.fgA p.fgB).2
      (nextRewardGrowthsInside p.tick tl pos.lower tu pos.upper u.rewards) = .ok u.position := by
  unfold calculateModifyLiquidity at h
  split at h
  · cases h
  · rename_i hz
    split at h
    · cases h
    · rename_i rewards hrw
      split at h
      · cases h
      · rename_i poolLiq hpl
        split at h
        · cases h
        · rename_i tlu htl
          split at h
          · cases h
          · rename_i tuu htu
            simp only [] at h
            split at h
            · cases h
            · rename_i pu hpu
              cases h
              simp only [Bool.and_eq_true, decide_eq_true_eq] at hz
              exact ⟨hz, hrw, hpl, htl, htu, hpu⟩

end WP
