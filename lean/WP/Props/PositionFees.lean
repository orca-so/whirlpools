import WP.Props.ReachGrowth
/-
  C07, the last link: what one position's pending fee growth is after a stretch of history.

  For a position `p` holding liquidity, `pend` = (fee growth inside its range) − (its checkpoint),
  mod 2^128 — the quantity `next_position_modify_liquidity_update` multiplies by the position's
  liquidity when the position is next touched.  Over ANY stretch of operations that do not touch the
  position itself (other positions opened, changed, closed; fees and rewards collected; swaps in
  both directions; reward configuration; failing operations), `pend` advances by exactly the
  growths of the swap steps taken while the tick index was inside the position's range, each of
  them ⌊lpFee·2^64/L⌋ with L ≥ the position's own liquidity.
-/
namespace WP.Reach
open WP WP.Gen WP.C05 WP.C10 WP.Path WP.Growth

variable {ts0 : Nat}

theorem tickModify_keeps_all {t t' : TickData} {tickIndex cur : Int} {fgA fgB : Nat} {rw : List RewardInfo} {delta : Int}
    {isUpper : Bool} (h0 : t.gross ≠ 0) (h1 : t'.gross ≠ 0)
    (h : nextTickModifyLiquidityUpdate t tickIndex cur fgA fgB rw delta isUpper = .ok t') :
    t'.fgoA = t.fgoA ∧ t'.fgoB = t.fgoB ∧ t'.rgo = t.rgo := by
  rcases tickModify_cases h with ⟨_, rfl⟩ | ⟨_, gross, _, ⟨_, rfl⟩ | ⟨_, net, _, rfl⟩⟩
  · exact ⟨rfl, rfl, rfl⟩
  · exact absurd rfl h1
  · exact ⟨if_neg h0, if_neg h0, if_neg h0⟩

theorem tickModify_keeps (t t' : TickData) (tickIndex cur : Int) (fgA fgB : Nat) (rw : List RewardInfo) (delta : Int) (isUpper : Bool)
    (h0 : t.gross ≠ 0) (h1 : t'.gross ≠ 0)
    (h : nextTickModifyLiquidityUpdate t tickIndex cur fgA fgB rw delta isUpper = .ok t') :
    t'.fgoA = t.fgoA ∧ t'.fgoB = t.fgoB :=
  ⟨(tickModify_keeps_all h0 h1 h).1, (tickModify_keeps_all h0 h1 h).2.1⟩

def cp (tokA : Bool) (p : PositionD) : Nat := if tokA then p.cpA else p.cpB
def glob (tokA : Bool) (s : HistState) : Nat := if tokA then s.pool.fgA else s.pool.fgB

def pend (tokA : Bool) (s : HistState) (p : PositionD) : Nat :=
  wsub (inside tokA s.ticks s.pool.tick p.lower p.upper (glob tokA s)) (cp tokA p)

/-- the parts of a position the pending growth depends on -/
def SameView (p p' : PositionD) : Prop :=
  p'.lower = p.lower ∧ p'.upper = p.upper ∧ p'.liq = p.liq ∧ p'.cpA = p.cpA ∧ p'.cpB = p.cpB

theorem sameView_refl (p : PositionD) : SameView p p := ⟨rfl, rfl, rfl, rfl, rfl⟩

theorem sameView_trans (p q r : PositionD) (a : SameView p q) (b : SameView q r) : SameView p r := by
  obtain ⟨a1, a2, a3, a4, a5⟩ := a
  obtain ⟨b1, b2, b3, b4, b5⟩ := b
  exact ⟨b1.trans a1, b2.trans a2, b3.trans a3, b4.trans a4, b5.trans a5⟩

theorem wsub_wsum (a c : Nat) (l : List Nat) : wsub (wsum a l) c = wsum (wsub a c) l := by
  induction l generalizing a with
  | nil => rw [wsum_nil, wsum_nil]
  | cons d tl ih =>
    unfold wsum at ih ⊢
    rw [List.foldl_cons, List.foldl_cons, ih, C07.wsub_wadd_comm]

theorem wsum_append_list (a : Nat) (l1 l2 : List Nat) : wsum a (l1 ++ l2) = wsum (wsum a l1) l2 := by
  unfold wsum; rw [List.foldl_append]

theorem le_sumBy (f : PositionD → Int) (hf : ∀ q, 0 ≤ f q) (id : Nat) (p : PositionD) :
    ∀ l : List (Nat × PositionD), 0 ≤ sumBy f l ∧ (posGet l id = some p → f p ≤ sumBy f l) := by
  intro l
  induction l with
  | nil => exact ⟨Int.le_refl 0, fun h => nomatch h⟩
  | cons hd tl ih =>
    obtain ⟨k, w⟩ := hd
    obtain ⟨n, g⟩ := ih
    have := hf w
    simp only [sumBy]
    refine ⟨by omega, fun h => ?_⟩
    unfold posGet at h
    by_cases e : k = id
    · rw [if_pos e] at h
      cases h
      omega
    · rw [if_neg e] at h
      have := g h
      omega

theorem bound_of_pos (id : Nat) (p : PositionD) (hl : 0 < p.liq) (hlu : p.lower < p.upper) :
    ∀ l : List (Nat × PositionD), posGet l id = some p →
      Bound l p.lower ∧ Bound l p.upper ∧ ∀ t, p.lower ≤ t → t < p.upper → (p.liq : Int) ≤ sumBy (inRangeLiq t) l := by
  intro l h
  have a := (le_sumBy (grossContrib p.lower) (C05.gross_nonneg _) id p l).2 h
  have b := (le_sumBy (grossContrib p.upper) (C05.gross_nonneg _) id p l).2 h
  have ga : (p.liq : Int) ≤ grossContrib p.lower p := by unfold grossContrib; rw [if_pos rfl]; split <;> omega
  have gb : (p.liq : Int) ≤ grossContrib p.upper p := by unfold grossContrib; rw [if_pos rfl]; split <;> omega
  unfold Bound
  refine ⟨by omega, by omega, fun t h1 h2 => ?_⟩
  have c := (le_sumBy (inRangeLiq t) (fun q => by unfold inRangeLiq; split <;> omega) id p l).2 h
  have e : inRangeLiq t p = p.liq := if_pos ⟨h1, h2⟩
  rw [e] at c
  exact c

/-- what makes the program's `growthInside` the `insideInit` of C07 for a position holding liquidity -/
theorem bounds_init (s : HistState) (id : Nat) (p : PositionD) (inv : Inv s) (g : Geo ts0 s)
    (hp : posGet s.positions id = some p) (hl : 0 < p.liq) :
    (s.ticks.get p.lower).initialized = true ∧ (s.ticks.get p.upper).initialized = true := by
  obtain ⟨bl, bh, _⟩ := bound_of_pos id p hl (inv.ordered id p hp) s.positions hp
  have tf := tickFacts_of s inv g
  exact ⟨(bound_init _ _ _ tf _ bl).1, (bound_init _ _ _ tf _ bh).1⟩

/-! ### what one operation does to a position it does not touch, and to the ticks -/

/-- a position `p` at `id` once the position at `j` has been replaced by `q`: still `p`, or `id = j` and it is `q` -/
theorem posGet_replace_cases {ps : List (Nat × PositionD)} {id j : Nat} {p pos : PositionD} (q : PositionD)
    (hp : posGet ps id = some p) (hj : posGet ps j = some pos) :
    posGet (posReplace ps j q) id = some p ∨ (id = j ∧ pos = p ∧ posGet (posReplace ps j q) id = some q) := by
  rw [C05.posGet_replace _ _ _ _ _ hj]
  by_cases e : id = j
  · subst e
    rw [hp] at hj
    exact Or.inr ⟨rfl, (Option.some.inj hj).symm, if_pos rfl⟩
  · exact Or.inl ((if_neg e).trans hp)

/-- the three cases: nothing, `collect_fees` (owed fees zeroed), `collect_reward` (one owed reward lowered) -/
theorem pos_step (s : HistState) (op : HistOp) (id : Nat) (p : PositionD)
    (hp : posGet s.positions id = some p)
    (hno : (∀ a b, op ≠ .modify id a b) ∧ op ≠ .upd id) :
    posGet (histApply s op).positions id = some p ∨
    posGet (histApply s op).positions id = some { p with owedA := 0, owedB := 0 } ∨
    ∃ i left, posGet (histApply s op).positions id =
      some { p with rewards := p.rewards.set i { (p.rewards.getD i {}) with owed := left } } := by
  rcases histApply_cases s op with ⟨i, e, t, _, h2⟩ | ⟨s', outs, h, h2⟩ | h2 <;> rw [h2]
  · obtain ⟨r, ts, v, hr⟩ := histReward_frame s i e t
    rw [hr]
    exact Or.inl hp
  · cases op with
    | reward i e t => cases h
    | openPos j lo hi =>
      obtain ⟨_, _, _, _, hn, rfl, _⟩ := histStep_open_ok h
      have hne : ¬ id = j := fun e => by rw [e, hn] at hp; cases hp
      exact Or.inl ((C05.posGet_insert _ _ _ _ hn).trans ((if_neg hne).trans hp))
    | modify j a b =>
      obtain ⟨_, _, pos, u, da, db, hpos, _, _, _, rfl, _⟩ := histStep_modify_ok h
      rcases posGet_replace_cases u.position hp hpos with k | ⟨e, _⟩
      · exact Or.inl k
      · exact absurd (by rw [e]) (hno.1 a b)
    | upd j =>
      obtain ⟨pos, u, hpos, _, rfl, _⟩ := histStep_upd_ok h
      rcases posGet_replace_cases u.position hp hpos with k | ⟨e, _⟩
      · exact Or.inl k
      · exact absurd (by rw [e]) hno.2
    | cfees j =>
      obtain ⟨pos, hpos, _, _, rfl, _⟩ := histStep_cfees_ok h
      rcases posGet_replace_cases _ hp hpos with k | ⟨_, rfl, k⟩
      · exact Or.inl k
      · exact Or.inr (Or.inl k)
    | crew j i =>
      obtain ⟨_, pos, hpos, hs⟩ := histStep_crew_ok h
      obtain ⟨rfl, _⟩ := hs _ rfl
      rcases posGet_replace_cases _ hp hpos with k | ⟨_, rfl, k⟩
      · exact Or.inl k
      · exact Or.inr (Or.inr ⟨i, _, k⟩)
    | cproto =>
      obtain ⟨_, _, rfl, _⟩ := histStep_cproto_ok h
      exact Or.inl hp
    | clock now =>
      obtain ⟨rfl, _⟩ := histStep_clock_ok h
      exact Or.inl hp
    | swap amount limit isInput aToB arrays =>
      obtain ⟨_, u, _, _, rfl, _⟩ := histStep_swap_ok h
      exact Or.inl hp
  · exact Or.inl hp

theorem modify_ticks_keep (s s' : HistState) (id amount : Nat) (positive : Bool) (outs : List Nat)
    (inv : Inv s) (inv' : Inv s') (h : histStep s (.modify id amount positive) = .ok (s', outs)) :
    nextRewardInfos s.pool s.now = .ok s'.pool.rewards ∧ s'.pool.tick = s.pool.tick ∧
    s'.pool.fgA = s.pool.fgA ∧ s'.pool.fgB = s.pool.fgB ∧
    ∀ t, Bound s.positions t → Bound s'.positions t →
      (s'.ticks.get t).fgoA = (s.ticks.get t).fgoA ∧ (s'.ticks.get t).fgoB = (s.ticks.get t).fgoB ∧
      (s'.ticks.get t).rgo = (s.ticks.get t).rgo := by
  obtain ⟨_, _, pos, u, da, db, _, hu, _, _, rfl, _⟩ := histStep_modify_ok h
  obtain ⟨_, hr, _, htl, htu, _⟩ := calcModify_ok hu
  refine ⟨hr, rfl, rfl, rfl, ?_⟩
  intro t b b'
  have g0 : (s.ticks.get t).gross ≠ 0 := by have := inv.gross t; unfold Bound at b; omega
  have g1 := inv'.gross t
  unfold Bound at b'
  simp only [] at g1 b' ⊢
  rw [C05.tick_get_set] at g1 ⊢
  by_cases e : t = pos.upper
  · rw [if_pos e] at g1 ⊢
    rw [e] at g0 ⊢
    exact tickModify_keeps_all g0 (by omega) htu
  · rw [if_neg e] at g1 ⊢
    rw [C05.tick_get_set] at g1 ⊢
    by_cases e2 : t = pos.lower
    · rw [if_pos e2] at g1 ⊢
      rw [e2] at g0 ⊢
      exact tickModify_keeps_all g0 (by omega) htl
    · rw [if_neg e2]
      exact ⟨rfl, rfl, rfl⟩

theorem frame_modify (s s' : HistState) (id amount : Nat) (positive : Bool) (outs : List Nat)
    (inv : Inv s) (inv' : Inv s')
    (h : histStep s (.modify id amount positive) = .ok (s', outs)) :
    s'.pool.tick = s.pool.tick ∧ s'.pool.fgA = s.pool.fgA ∧ s'.pool.fgB = s.pool.fgB ∧
    ∀ (tokA : Bool) (lo hi : Int) (g : Nat), Bound s.positions lo → Bound s.positions hi → Bound s'.positions lo → Bound s'.positions hi →
      inside tokA s'.ticks s.pool.tick lo hi g = inside tokA s.ticks s.pool.tick lo hi g := by
  obtain ⟨_, a, b, c, d⟩ := modify_ticks_keep s s' id amount positive outs inv inv' h
  refine ⟨a, b, c, ?_⟩
  intro tokA lo hi g b1 b2 b3 b4
  obtain ⟨l1, l2, _⟩ := d lo b1 b3
  obtain ⟨h1, h2, _⟩ := d hi b2 b4
  unfold inside fo
  rw [l1, l2, h1, h2]


/-! ### one operation, then any stretch of history -/

/-- `d` is the pro-rata growth of a swap step during which at least `pl` liquidity was in range -/
def ShareOf (pl : Nat) (d : Nat) : Prop := ∃ L lpFee, d = share L lpFee ∧ pl ≤ L

/-- `d` is the pro-rata growth ⌊lpFee·2^64/L⌋ of a swap step taken from state `st` at a tick index
    inside the range of `p`, L being the liquidity in range there, that of `p` included -/
def FeeAt (st : HistState) (p : PositionD) (d : Nat) : Prop :=
  ∃ t lpFee, p.lower ≤ t ∧ t < p.upper ∧ d = share (sumBy (inRangeLiq t) st.positions).toNat lpFee ∧
    p.liq ≤ (sumBy (inRangeLiq t) st.positions).toNat

theorem feeAt_inRangeDeltas {s : HistState} {p : PositionD} {log : List (Int × Nat)}
    (hlog : ∀ e ∈ log, ∃ lpFee, e.2 = share (sumBy (inRangeLiq e.1) s.positions).toNat lpFee)
    (hin : ∀ t, p.lower ≤ t → t < p.upper → (p.liq : Int) ≤ sumBy (inRangeLiq t) s.positions) :
    ∀ d ∈ inRangeDeltas log p.lower p.upper, FeeAt s p d := by
  intro d hd
  obtain ⟨e, he, rfl⟩ := List.mem_map.mp hd
  obtain ⟨hel, her⟩ := List.mem_filter.mp he
  obtain ⟨lp, hlp⟩ := hlog e hel
  obtain ⟨r1, r2⟩ : p.lower ≤ e.1 ∧ e.1 < p.upper := of_decide_eq_true her
  have := hin e.1 r1 r2
  exact ⟨e.1, lp, r1, r2, hlp, by omega⟩

theorem pend_step (s : HistState) (op : HistOp) (id : Nat) (p : PositionD) (tokA : Bool)
    (inv : Inv s) (g : Geo ts0 s) (w : Wf s) (hp : posGet s.positions id = some p) (hl : 0 < p.liq)
    (hno : (∀ a b, op ≠ .modify id a b) ∧ op ≠ .upd id) (hop : OpOK ts0 op) :
    ∃ p', posGet (histApply s op).positions id = some p' ∧ SameView p p' ∧
      ∃ deltas, pend tokA (histApply s op) p' = wsum (pend tokA s p) deltas ∧ ∀ d ∈ deltas, FeeAt s p d := by
  have hlu : p.lower < p.upper := inv.ordered id p hp
  obtain ⟨bl, bh, hin⟩ := bound_of_pos id p hl hlu s.positions hp
  have hv : ∃ p', posGet (histApply s op).positions id = some p' ∧ SameView p p' := by
    rcases pos_step s op id p hp hno with h1 | h1 | ⟨k, left, h1⟩ <;> exact ⟨_, h1, rfl, rfl, rfl, rfl, rfl⟩
  obtain ⟨p', hp', v⟩ := hv
  refine ⟨p', hp', v, ?_⟩
  -- the checkpoint does not move: it is enough to follow the growth inside the range
  suffices hi : ∃ deltas, inside tokA (histApply s op).ticks (histApply s op).pool.tick p.lower p.upper (glob tokA (histApply s op)) =
      wsum (inside tokA s.ticks s.pool.tick p.lower p.upper (glob tokA s)) deltas ∧ ∀ d ∈ deltas, FeeAt s p d by
    obtain ⟨ds, e, hd⟩ := hi
    obtain ⟨v1, v2, _, v4, v5⟩ := v
    refine ⟨ds, ?_, hd⟩
    unfold pend cp
    rw [v1, v2, v4, v5, e, wsub_wsum]
  have same : ∀ {a b : Nat}, b = a → ∃ deltas, b = wsum a deltas ∧ ∀ d ∈ deltas, FeeAt s p d :=
    fun e => ⟨[], e.trans (wsum_nil _).symm, fun d hd => nomatch hd⟩
  rcases histApply_cases s op with ⟨i, e, t, _, h2⟩ | ⟨s', outs, h, h2⟩ | h2 <;> rw [h2] at hp' ⊢
  · obtain ⟨r, ts, vv, hr⟩ := histReward_frame s i e t
    rw [hr]
    exact same rfl
  · rcases histStep_cases h with ⟨amount, limit, isInput, aToB, arrays, rfl⟩ | ⟨j, a, b, rfl⟩ | q
    · unfold OpOK at hop
      rw [← g.spacing] at hop
      obtain ⟨_, log, _, _, q3, q4⟩ := swap_step_growth s s' amount limit isInput aToB arrays outs inv g w hop.1 hop.2 h
      obtain ⟨qa, qb⟩ := q4 p.lower p.upper hlu bl bh
      by_cases ht : tokA = aToB
      · subst ht
        exact ⟨inRangeDeltas log p.lower p.upper, qa, feeAt_inRangeDeltas q3 hin⟩
      · cases Bool.eq_not_of_ne ht
        apply same
        cases aToB <;> exact qb
    · obtain ⟨f1, f2, f3, f4⟩ := frame_modify s s' j a b outs inv (inv_modify s s' j a b outs inv h) h
      obtain ⟨bl', bh', _⟩ := bound_of_pos id p' (by rw [v.2.2.1]; exact hl) (by rw [v.1, v.2.1]; exact hlu) s'.positions hp'
      rw [v.1] at bl'
      rw [v.2.1] at bh'
      apply same
      unfold glob
      rw [f1, f2, f3]
      exact f4 tokA p.lower p.upper _ bl bh bl' bh'
    · apply same
      unfold glob
      rw [q.ticks, q.pool]
  · exact same rfl

/-- the induction behind the two history theorems.  `P` is what is known of state and position, `V` the
    view of the position that is kept, `pd` the pending amount, `Step st p d` says that `d` is an increment
    made at state `st`: if one operation advances `pd` by increments made at the state it starts from,
    a history advances it by increments made at the states it passes through -/
theorem pending_history {P : HistState → PositionD → Prop} {V : PositionD → PositionD → Prop} {pd : HistState → PositionD → Nat}
    {Step : HistState → PositionD → Nat → Prop} {OK : HistOp → Prop}
    (vrefl : ∀ p, V p p) (vtrans : ∀ p q r, V p q → V q r → V p r)
    (sview : ∀ st p q d, V p q → Step st q d → Step st p d)
    (step : ∀ s op p, P s p → OK op →
      ∃ p', P (histApply s op) p' ∧ V p p' ∧ ∃ ds, pd (histApply s op) p' = wsum (pd s p) ds ∧ ∀ d ∈ ds, Step s p d) :
    ∀ (ops : List HistOp) (s : HistState) (p : PositionD), P s p → (∀ op ∈ ops, OK op) →
    ∃ p', P (ops.foldl histApply s) p' ∧ V p p' ∧
      ∃ ds, pd (ops.foldl histApply s) p' = wsum (pd s p) ds ∧
        ∀ d ∈ ds, ∃ k, k < ops.length ∧ Step ((ops.take k).foldl histApply s) p d := by
  intro ops
  induction ops with
  | nil => intro s p hP _; exact ⟨p, hP, vrefl p, [], rfl, fun d hd => nomatch hd⟩
  | cons op rest ih =>
    intro s p hP hops
    obtain ⟨p1, hP1, v1, d1, e1, sh1⟩ := step s op p hP (hops op List.mem_cons_self)
    obtain ⟨p2, hP2, v2, d2, e2, sh2⟩ := ih _ p1 hP1 (fun o ho => hops o (List.mem_cons_of_mem _ ho))
    refine ⟨p2, hP2, vtrans _ _ _ v1 v2, d1 ++ d2, ?_, ?_⟩
    · show pd (rest.foldl histApply (histApply s op)) p2 = _
      rw [e2, e1, wsum_append_list]
    · intro d hd
      rcases List.mem_append.mp hd with h | h
      · exact ⟨0, Nat.succ_pos _, sh1 d h⟩
      · obtain ⟨k, hk, ha⟩ := sh2 d h
        exact ⟨k + 1, Nat.succ_lt_succ hk, sview _ _ _ _ v1 ha⟩

/-- `pend_history` with every increment located: made at a state this history passes through, at a tick
    index inside the position's range, pro rata to the liquidity in range there -/
theorem pend_history_at (ops : List HistOp) (id : Nat) (tokA : Bool) (s : HistState) (p : PositionD)
    (inv : Inv s) (g : Geo ts0 s) (w : Wf s) (hp : posGet s.positions id = some p) (hl : 0 < p.liq)
    (hops : ∀ op ∈ ops, OpOK ts0 op ∧ (∀ a b, op ≠ .modify id a b) ∧ op ≠ .upd id) :
    ∃ p', posGet (ops.foldl histApply s).positions id = some p' ∧ SameView p p' ∧
      ∃ deltas, pend tokA (ops.foldl histApply s) p' = wsum (pend tokA s p) deltas ∧
        ∀ d ∈ deltas, ∃ k, k < ops.length ∧ FeeAt ((ops.take k).foldl histApply s) p d := by
  obtain ⟨p', ⟨_, hp', _⟩, rest⟩ := pending_history
    (P := fun s p => (Inv s ∧ Geo ts0 s ∧ Wf s) ∧ posGet s.positions id = some p ∧ 0 < p.liq) (pd := pend tokA) (Step := FeeAt)
    sameView_refl sameView_trans
    (fun st p q d v ⟨t, lp, a, b, c, e⟩ => ⟨t, lp, by rw [← v.1]; exact a, by rw [← v.2.1]; exact b, c, by rw [← v.2.2.1]; exact e⟩)
    (fun s op p ⟨⟨inv, g, w⟩, hp, hl⟩ ok => by
      obtain ⟨p', a, b, c⟩ := pend_step s op id p tokA inv g w hp hl ok.2 ok.1
      obtain ⟨i1, g1⟩ := apply_keeps s op inv g ok.1
      exact ⟨p', ⟨⟨i1, g1, apply_keeps_wf s op inv g w ok.1⟩, a, by rw [b.2.2.1]; exact hl⟩, b, c⟩)
    ops s p ⟨⟨inv, g, w⟩, hp, hl⟩ hops
  exact ⟨p', hp', rest⟩

/-- **C07, per position, over any stretch of history**: while a position holding liquidity is not
    itself touched, its pending growth (growth inside its range minus its checkpoint, mod 2^128)
    advances by exactly a list of swap-step growths, each the pro-rata share ⌊lpFee·2^64/L⌋ of a
    step during which the position was in range (L ≥ its own liquidity).  Nothing else — other
    positions coming and going, collections, reward configuration, failing operations, swaps while
    out of range — moves it. -/
theorem pend_history (ops : List HistOp) (id : Nat) (tokA : Bool) : ∀ (s : HistState) (p : PositionD),
    Inv s → Geo ts0 s → Wf s → posGet s.positions id = some p → 0 < p.liq →
    (∀ op ∈ ops, OpOK ts0 op ∧ (∀ a b, op ≠ .modify id a b) ∧ op ≠ .upd id) →
    ∃ p', posGet (ops.foldl histApply s).positions id = some p' ∧ SameView p p' ∧
      ∃ deltas, pend tokA (ops.foldl histApply s) p' = wsum (pend tokA s p) deltas ∧ ∀ d ∈ deltas, ShareOf p.liq d := by
  intro s p inv g w hp hl hops
  obtain ⟨p', hp', v, ds, e, sh⟩ := pend_history_at ops id tokA s p inv g w hp hl hops
  refine ⟨p', hp', v, ds, e, fun d hd => ?_⟩
  obtain ⟨_, _, t, lp, _, _, hd, hle⟩ := sh d hd
  exact ⟨_, lp, hd, hle⟩

theorem upd_position {s s' : HistState} {id : Nat} {outs : List Nat} {p : PositionD}
    (hp : posGet s.positions id = some p) (h : histStep s (.upd id) = .ok (s', outs)) :
    nextRewardInfos s.pool s.now = .ok s'.pool.rewards ∧ ∃ q, posGet s'.positions id = some q ∧
      nextPositionUpdate p 0
        (nextFeeGrowthsInside s.pool.tick (s.ticks.get p.lower) p.lower (s.ticks.get p.upper) p.upper s.pool.fgA s.pool.fgB).1
        (nextFeeGrowthsInside s.pool.tick (s.ticks.get p.lower) p.lower (s.ticks.get p.upper) p.upper s.pool.fgA s.pool.fgB).2
        (nextRewardGrowthsInside s.pool.tick (s.ticks.get p.lower) p.lower (s.ticks.get p.upper) p.upper s'.pool.rewards) = .ok q := by
  obtain ⟨pos, u, hpos, hu, rfl, _⟩ := histStep_upd_ok h
  rw [hp] at hpos
  cases hpos
  obtain ⟨_, hr, _, _, _, hq⟩ := calcModify_ok hu
  refine ⟨hr, u.position, ?_, hq⟩
  show posGet (posReplace s.positions id u.position) id = _
  rw [C05.posGet_replace _ _ _ _ _ hp, if_pos rfl]

/-- when the position is touched the growth is turned into tokens: owed += ⌊L·pend/2^64⌋
    (0 on overflow, never more: C07.credit_le) -/
theorem upd_credits_pend (s s' : HistState) (id : Nat) (outs : List Nat) (p : PositionD)
    (inv : Inv s) (g : Geo ts0 s) (hp : posGet s.positions id = some p) (hl : 0 < p.liq)
    (h : histStep s (.upd id) = .ok (s', outs)) :
    ∃ p', posGet s'.positions id = some p' ∧
      p'.owedA = wadd64 p.owedA (mulShiftOr0 p.liq (pend true s p)) ∧
      p'.owedB = wadd64 p.owedB (mulShiftOr0 p.liq (pend false s p)) := by
  obtain ⟨il, ih⟩ := bounds_init s id p inv g hp hl
  obtain ⟨_, q, hq, hu⟩ := upd_position hp h
  obtain ⟨liq, _, rfl⟩ := nextPositionUpdate_ok hu
  refine ⟨_, hq, ?_⟩
  unfold nextFeeGrowthsInside
  simp only []
  rw [C07.growthInside_init _ _ _ _ _ _ _ _ il ih, C07.growthInside_init _ _ _ _ _ _ _ _ il ih]
  exact ⟨rfl, rfl⟩

end WP.Reach
