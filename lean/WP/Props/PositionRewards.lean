import WP.Props.PositionFees
import WP.Props.C11
/-
  C11, the last link: what one position's pending growth of reward `i` is after a stretch of history.

  `pendR i` = (growth of reward `i` inside the position's range, read against the global growth) − (the
  position's checkpoint), mod 2^128: what `next_position_modify_liquidity_update` multiplies by the
  position's liquidity when the position is next touched.  Over any stretch of operations that do not touch
  the position, `pendR i` advances only by accruals ⌊dt·emissions/L⌋ settled while the tick index was inside
  the range (`AccrAt`: each delta is an accrual at some prefix state of the history); swaps and crossings
  move nothing (`gstep`, from `Growth.swap_reward_growth`).
-/
namespace WP.Reach
open WP WP.Gen WP.C05 WP.C10 WP.Path WP.Growth

variable {ts0 : Nat}

def rcp (i : Nat) (p : PositionD) : Nat := (p.rewards.getD i {}).checkpoint
def rglob (i : Nat) (s : HistState) : Nat := (s.pool.rewards.getD i {}).growth
def remis (i : Nat) (s : HistState) : Nat := (s.pool.rewards.getD i {}).emissions
def rinit (i : Nat) (s : HistState) : Bool := (s.pool.rewards.getD i {}).initialized

theorem getD_map_reward (f : RewardInfo → RewardInfo) (l : List RewardInfo) (i : Nat) (h : f {} = {}) :
    (l.map f).getD i {} = f (l.getD i {}) := by
  simp only [List.getD_eq_getElem?_getD, List.getElem?_map]
  cases l[i]? with
  | none => simp [h]
  | some v => simp

theorem getD_set_field {α β : Type} (f : α → β) (l : List α) (i j : Nat) (v d : α) (h : i = j → f v = f (l.getD j d)) :
    f ((l.set j v).getD i d) = f (l.getD i d) := by
  by_cases hl : j < l.length
  · simp only [List.getD_eq_getElem?_getD] at h ⊢
    by_cases e : i = j
    · subst e
      rw [List.getElem?_set_self hl]
      exact h rfl
    · rw [List.getElem?_set_ne (Ne.symm e)]
  · rw [List.set_eq_of_length_le (Nat.le_of_not_lt hl)]

theorem settle_growth (p : PoolD) (now : Nat) (R : List RewardInfo) (i : Nat) (h : nextRewardInfos p now = .ok R) :
    (R.getD i {}).initialized = (p.rewards.getD i {}).initialized ∧
    (R.getD i {}).emissions = (p.rewards.getD i {}).emissions ∧
    p.rewardTs ≤ now ∧
    ((R.getD i {}).growth = (p.rewards.getD i {}).growth ∨
     ((R.getD i {}).growth = wadd (p.rewards.getD i {}).growth
        (C11.accrual (now - p.rewardTs) (p.rewards.getD i {}).emissions p.liq) ∧ p.liq ≠ 0)) := by
  obtain ⟨hts, rfl | ⟨hl, rfl⟩⟩ := C11.nextRewardInfos_inv h
  · exact ⟨rfl, rfl, hts, Or.inl rfl⟩
  · rw [getD_map_reward _ p.rewards i (by rfl)]
    cases hi : (p.rewards.getD i {}).initialized with
    | false => simp only [hi, Bool.false_eq_true, if_false]; exact ⟨trivial, trivial, hts, Or.inl trivial⟩
    | true => simp only [if_true]; exact ⟨trivial, trivial, hts, Or.inr ⟨trivial, hl⟩⟩

theorem settled (i : Nat) (s : HistState) (R : List RewardInfo) (hinit : rinit i s = true)
    (hn : nextRewardInfos s.pool s.now = .ok R) :
    (R.getD i {}).initialized = true ∧
    ((R.getD i {}).growth = rglob i s ∨
      ((R.getD i {}).growth = wadd (rglob i s) (C11.accrual (s.now - s.pool.rewardTs) (remis i s) s.pool.liq) ∧
        s.pool.liq ≠ 0 ∧ s.pool.rewardTs ≤ s.now)) := by
  obtain ⟨b1, _, b3, b4⟩ := settle_growth _ _ _ i hn
  refine ⟨b1.trans hinit, ?_⟩
  rcases b4 with b4 | ⟨b4, b5⟩
  · exact Or.inl b4
  · exact Or.inr ⟨b4, b5, b3⟩

/-- what `initialize_reward` + funding + `set_reward_emissions` (with its partial commits) does to the
    global growth of an ALREADY initialized reward `i`: nothing, or one settlement -/
theorem reward_r (s : HistState) (j e t i : Nat) (hinit : rinit i s = true) :
    rinit i (histReward s j e t).1 = true ∧
    (rglob i (histReward s j e t).1 = rglob i s ∨
      (rglob i (histReward s j e t).1 = wadd (rglob i s) (C11.accrual (s.now - s.pool.rewardTs) (remis i s) s.pool.liq) ∧
        s.pool.liq ≠ 0 ∧ s.pool.rewardTs ≤ s.now)) := by
  rcases histReward_cases s j e t with h | ⟨_, R, hR, h⟩
  · rw [h]
    exact ⟨hinit, Or.inl rfl⟩
  · -- the reward initialized in the first stage was not initialized before: it is not `i`
    have hRi : R.getD i {} = s.pool.rewards.getD i {} := by
      rcases hR with ⟨_, rfl⟩ | ⟨hf, rfl⟩
      · rfl
      · refine getD_set_field (fun r : RewardInfo => r) _ i j _ {} (fun e => ?_)
        subst e
        exact Bool.noConfusion (hinit.symm.trans hf)
    have a : rinit i { s with pool := { s.pool with rewards := R } } = true := (congrArg (·.initialized) hRi).trans hinit
    rcases h with h | ⟨next, hn, h⟩ <;> rw [h]
    · exact ⟨a, Or.inl (congrArg (·.growth) hRi)⟩
    · obtain ⟨c1, c2⟩ := settled i _ next a hn
      simp only [rglob, remis, hRi] at c2
      refine ⟨(getD_set_field (·.initialized) next i j { (next.getD j {}) with emissions := e } {} (fun _ => rfl)).trans c1, ?_⟩
      unfold rglob remis
      simp only []
      rw [getD_set_field (·.growth) next i j { (next.getD j {}) with emissions := e } {} (fun _ => rfl)]
      exact c2


/-! ### one operation: the global growth of a reward and the growth inside liquidity-bearing ranges -/

/-- the reward growth inside a range whose bounds hold liquidity -/
def rinside (i : Nat) (ticks : TickMap) (cur lo hi : Int) (g : Nat) : Nat :=
  C07.insideInit cur lo (ro i (ticks.get lo)) hi (ro i (ticks.get hi)) g

theorem modify_r (s s' : HistState) (j amount : Nat) (positive : Bool) (outs : List Nat)
    (inv : Inv s) (inv' : Inv s') (h : histStep s (.modify j amount positive) = .ok (s', outs)) :
    nextRewardInfos s.pool s.now = .ok s'.pool.rewards ∧ s'.pool.tick = s.pool.tick ∧
    ∀ t, Bound s.positions t → Bound s'.positions t → (s'.ticks.get t).rgo = (s.ticks.get t).rgo := by
  obtain ⟨a, b, _, _, c⟩ := modify_ticks_keep s s' j amount positive outs inv inv' h
  exact ⟨a, b, fun t b1 b2 => (c t b1 b2).2.2⟩

/-- reward `i` over one operation (successful, failing or partially committed): it stays initialized; its
    global growth stays or advances by ONE settlement, the accrual ⌊dt·emissions/liquidity⌋ of the state the
    operation started from; the growth inside every range whose bounds hold liquidity before and after is
    unchanged when read against the new global growth -/
theorem gstep (i : Nat) (hi3 : i < 3) (s : HistState) (op : HistOp) (inv : Inv s) (g : Geo ts0 s) (w : WfR s)
    (hinit : rinit i s = true) (hop : OpOK ts0 op) :
    rinit i (histApply s op) = true ∧
    (rglob i (histApply s op) = rglob i s ∨
      (rglob i (histApply s op) = wadd (rglob i s) (C11.accrual (s.now - s.pool.rewardTs) (remis i s) s.pool.liq) ∧
        s.pool.liq ≠ 0 ∧ s.pool.rewardTs ≤ s.now)) ∧
    ∀ lo hi, lo < hi → Bound s.positions lo → Bound s.positions hi →
      Bound (histApply s op).positions lo → Bound (histApply s op).positions hi →
      rinside i (histApply s op).ticks (histApply s op).pool.tick lo hi (rglob i (histApply s op)) =
        rinside i s.ticks s.pool.tick lo hi (rglob i (histApply s op)) := by
  rcases histApply_cases s op with ⟨j, e, t, _, h2⟩ | ⟨s', outs, h, h2⟩ | h2 <;> rw [h2]
  · obtain ⟨r1, r2⟩ := reward_r s j e t i hinit
    refine ⟨r1, r2, fun lo hi _ _ _ _ _ => ?_⟩
    obtain ⟨r, ts, v, hr⟩ := histReward_frame s j e t
    rw [hr]
  · rcases histStep_cases h with ⟨amount, limit, isInput, aToB, arrays, rfl⟩ | ⟨j, a, b, rfl⟩ | q
    · unfold OpOK at hop
      rw [← g.spacing] at hop
      obtain ⟨_, q1, q2⟩ := swap_step_reward s s' amount limit isInput aToB arrays outs inv g w hop.1 hop.2 h
      obtain ⟨c1, c2⟩ := settled i s _ hinit q1
      exact ⟨c1, c2, fun lo hi hlh b1 b2 _ _ => q2 i hi3 c1 lo hi hlh b1 b2⟩
    · obtain ⟨m1, m2, m3⟩ := modify_r s s' j a b outs inv (inv_modify s s' j a b outs inv h) h
      obtain ⟨c1, c2⟩ := settled i s _ hinit m1
      refine ⟨c1, c2, fun lo hi _ b1 b2 b3 b4 => ?_⟩
      unfold rinside ro
      rw [m2, m3 lo b1 b3, m3 hi b2 b4]
    · have f : s'.pool.tick = s.pool.tick := by rw [q.pool]
      rcases q.rewards with f5 | f5
      · refine ⟨?_, Or.inl ?_, fun lo hi _ _ _ _ _ => by rw [q.ticks, f]⟩
        · unfold rinit at hinit ⊢
          rw [f5]
          exact hinit
        · unfold rglob
          rw [f5]
      · obtain ⟨c1, c2⟩ := settled i s _ hinit f5
        exact ⟨c1, c2, fun lo hi _ _ _ _ _ => by rw [q.ticks, f]⟩
  · exact ⟨hinit, Or.inl rfl, fun _ _ _ _ _ _ _ => rfl⟩


/-! ### one position -/

def pendR (i : Nat) (s : HistState) (p : PositionD) : Nat :=
  wsub (rinside i s.ticks s.pool.tick p.lower p.upper (rglob i s)) (rcp i p)

/-- the parts of a position its pending reward growth depends on -/
def ViewR (i : Nat) (p p' : PositionD) : Prop :=
  p'.lower = p.lower ∧ p'.upper = p.upper ∧ p'.liq = p.liq ∧ rcp i p' = rcp i p

/-- `d` is the settlement of reward `i` at state `st` — ⌊(now − last update)·emissions/in-range liquidity⌋, 0 when
    the product overflows — and `p` is in range there, its liquidity part of the divisor -/
def AccrAt (i : Nat) (st : HistState) (p : PositionD) (d : Nat) : Prop :=
  d = C11.accrual (st.now - st.pool.rewardTs) (remis i st) st.pool.liq ∧ st.pool.rewardTs ≤ st.now ∧
  p.lower ≤ st.pool.tick ∧ st.pool.tick < p.upper ∧ p.liq ≤ st.pool.liq ∧ st.pool.liq ≠ 0

theorem accrAt_view (i : Nat) (st : HistState) (p p' : PositionD) (d : Nat) (v : ViewR i p p') (h : AccrAt i st p' d) :
    AccrAt i st p d := by
  obtain ⟨a, b, c, _⟩ := v
  unfold AccrAt at *
  rw [a, b, c] at h
  exact h

theorem viewR_trans (i : Nat) (p q r : PositionD) (a : ViewR i p q) (b : ViewR i q r) : ViewR i p r := by
  obtain ⟨a1, a2, a3, a4⟩ := a
  obtain ⟨b1, b2, b3, b4⟩ := b
  exact ⟨b1.trans a1, b2.trans a2, b3.trans a3, b4.trans a4⟩

theorem inside_settle (cur lo hi : Int) (oL oH g d : Nat) (h : lo < hi) (hg : g < TWO128) (hl : oL < TWO128) (hu : oH < TWO128) :
    C07.insideInit cur lo oL hi oH (wadd g d) =
      if lo ≤ cur ∧ cur < hi then wadd (C07.insideInit cur lo oL hi oH g) d else C07.insideInit cur lo oL hi oH g := by
  by_cases c1 : cur < lo
  · rw [if_neg (by omega), C07.inside_const_below _ _ _ _ _ _ _ c1 h hg hl hu]
  · by_cases c2 : cur < hi
    · rw [if_pos ⟨by omega, c2⟩, C07.inside_tracks_in_range _ _ _ _ _ _ _ (by omega) c2 hg hl hu]
    · rw [if_neg (by omega), C07.inside_const_above _ _ _ _ _ _ _ (by omega) h hg hl hu]

/-- the pending growth of a position read against a global growth `G` that is the present one or one
    settlement ahead: the settlement is added exactly when the position is in range -/
theorem pendR_settle (i : Nat) (hi3 : i < 3) (s : HistState) (id : Nat) (p : PositionD) (inv : Inv s) (w : WfR s)
    (hp : posGet s.positions id = some p) (hl : 0 < p.liq) (G : Nat)
    (hG : G = rglob i s ∨
      (G = wadd (rglob i s) (C11.accrual (s.now - s.pool.rewardTs) (remis i s) s.pool.liq) ∧
        s.pool.liq ≠ 0 ∧ s.pool.rewardTs ≤ s.now)) :
    wsub (rinside i s.ticks s.pool.tick p.lower p.upper G) (rcp i p) = pendR i s p ∨
    ∃ d, AccrAt i s p d ∧ wsub (rinside i s.ticks s.pool.tick p.lower p.upper G) (rcp i p) = wadd (pendR i s p) d := by
  have hlu : p.lower < p.upper := inv.ordered id p hp
  obtain ⟨_, _, hin⟩ := bound_of_pos id p hl hlu s.positions hp
  rcases hG with e | ⟨e, hl0, hts⟩
  · rw [e]
    exact Or.inl rfl
  · have hG : rglob i s < TWO128 := reward_getD_lt _ w.glob i
    rw [e]
    unfold pendR rinside
    rw [inside_settle _ _ _ _ _ _ _ hlu hG (w.ticks _ i hi3) (w.ticks _ i hi3)]
    by_cases c : p.lower ≤ s.pool.tick ∧ s.pool.tick < p.upper
    · rw [if_pos c, C07.wsub_wadd_comm]
      refine Or.inr ⟨_, ⟨rfl, hts, c.1, c.2, ?_, hl0⟩, rfl⟩
      have := hin s.pool.tick c.1 c.2
      have := inv.liq
      omega
    · rw [if_neg c]
      exact Or.inl rfl

theorem pendR_step (i : Nat) (hi3 : i < 3) (s : HistState) (op : HistOp) (id : Nat) (p : PositionD)
    (inv : Inv s) (g : Geo ts0 s) (w : WfR s) (hinit : rinit i s = true)
    (hp : posGet s.positions id = some p) (hl : 0 < p.liq)
    (hno : (∀ a b, op ≠ .modify id a b) ∧ op ≠ .upd id) (hop : OpOK ts0 op) :
    ∃ p', posGet (histApply s op).positions id = some p' ∧ ViewR i p p' ∧
      (pendR i (histApply s op) p' = pendR i s p ∨
        ∃ d, AccrAt i s p d ∧ pendR i (histApply s op) p' = wadd (pendR i s p) d) := by
  have hlu : p.lower < p.upper := inv.ordered id p hp
  obtain ⟨bl, bh, _⟩ := bound_of_pos id p hl hlu s.positions hp
  obtain ⟨_, g2, g3⟩ := gstep i hi3 s op inv g w hinit hop
  have hview : ∃ p', posGet (histApply s op).positions id = some p' ∧ ViewR i p p' := by
    rcases pos_step s op id p hp hno with h1 | h1 | ⟨k, left, h1⟩
    · exact ⟨p, h1, rfl, rfl, rfl, rfl⟩
    · exact ⟨_, h1, rfl, rfl, rfl, rfl⟩
    · exact ⟨_, h1, rfl, rfl, rfl,
        getD_set_field (·.checkpoint) p.rewards i k { (p.rewards.getD k {}) with owed := left } {} (fun _ => rfl)⟩
  obtain ⟨p', hp', v⟩ := hview
  refine ⟨p', hp', v, ?_⟩
  obtain ⟨bl', bh', _⟩ := bound_of_pos id p' (by rw [v.2.2.1]; exact hl) (by rw [v.1, v.2.1]; exact hlu) _ hp'
  rw [v.1] at bl'
  rw [v.2.1] at bh'
  -- the view is the same and so are the ticks of the range: only the global growth has moved
  have e : pendR i (histApply s op) p' =
      wsub (rinside i s.ticks s.pool.tick p.lower p.upper (rglob i (histApply s op))) (rcp i p) := by
    unfold pendR
    rw [v.1, v.2.1, v.2.2.2, g3 p.lower p.upper hlu bl bh bl' bh']
  rw [e]
  exact pendR_settle i hi3 s id p inv w hp hl _ g2

/-- **C11, per position, over any stretch of history**: while a position holding liquidity is not itself
    changed or updated, the growth of an initialized reward pending for it (growth inside its range minus its
    checkpoint, mod 2^128) advances by exactly a list of settlements, each of them the accrual
    ⌊dt·emissions/L⌋ made at a state of this very history at which the position was in range (so L, the
    in-range liquidity, includes its own).  Nothing else moves it: time passing while it is out of range, swaps
    crossing its bounds in either direction, other positions coming and going, emission changes, collections,
    failing and partially committed operations. -/
theorem pendR_history (i : Nat) (hi3 : i < 3) (id : Nat) (ops : List HistOp) : ∀ (s : HistState) (p : PositionD),
    Inv s → Geo ts0 s → WfR s → rinit i s = true → posGet s.positions id = some p → 0 < p.liq →
    (∀ op ∈ ops, OpOK ts0 op ∧ (∀ a b, op ≠ .modify id a b) ∧ op ≠ .upd id) →
    ∃ p', posGet (ops.foldl histApply s).positions id = some p' ∧ ViewR i p p' ∧
      ∃ deltas, pendR i (ops.foldl histApply s) p' = wsum (pendR i s p) deltas ∧
        ∀ d ∈ deltas, ∃ k, k < ops.length ∧ AccrAt i ((ops.take k).foldl histApply s) p d := by
  intro s p inv g w hinit hp hl hops
  obtain ⟨p', ⟨_, hp', _⟩, rest⟩ := pending_history
    (P := fun s p => (Inv s ∧ Geo ts0 s ∧ WfR s ∧ rinit i s = true) ∧ posGet s.positions id = some p ∧ 0 < p.liq)
    (pd := pendR i) (Step := AccrAt i)
    (fun p => ⟨rfl, rfl, rfl, rfl⟩) (viewR_trans i) (accrAt_view i)
    (fun s op p ⟨⟨inv, g, w, hinit⟩, hp, hl⟩ ok => by
      obtain ⟨p', a, b, alt⟩ := pendR_step i hi3 s op id p inv g w hinit hp hl ok.2 ok.1
      obtain ⟨i1, g1⟩ := apply_keeps s op inv g ok.1
      refine ⟨p', ⟨⟨i1, g1, apply_keeps_wfR s op inv g w ok.1, (gstep i hi3 s op inv g w hinit ok.1).1⟩, a,
        by rw [b.2.2.1]; exact hl⟩, b, ?_⟩
      rcases alt with e | ⟨d, ha, e⟩
      · exact ⟨[], e.trans (wsum_nil _).symm, fun d hd => nomatch hd⟩
      · refine ⟨[d], ?_, fun x hx => by rw [List.mem_singleton.mp hx]; exact ha⟩
        -- not by `rfl`: unfolding `wadd` on open terms sends the kernel into deep recursion
        unfold wsum
        rw [List.foldl_cons, List.foldl_nil]
        exact e)
    ops s p ⟨⟨inv, g, w, hinit⟩, hp, hl⟩ hops
  exact ⟨p', hp', rest⟩


/-! ### the update turns the pending growth into owed reward tokens -/

/-- `update_fees_and_rewards` on a position holding liquidity, for an initialized reward `i`: the rewards are
    settled first (`R`), then owed_i += ⌊L · (growth inside the range against the settled global growth −
    checkpoint) / 2^64⌋ (0 on overflow, never more: C07.credit_le) and the checkpoint moves to that growth -/
theorem upd_credits_reward (i : Nat) (hi3 : i < 3) (s s' : HistState) (id : Nat) (outs : List Nat) (p : PositionD)
    (inv : Inv s) (g : Geo ts0 s) (hinit : rinit i s = true)
    (hp : posGet s.positions id = some p) (hl : 0 < p.liq)
    (h : histStep s (.upd id) = .ok (s', outs)) :
    ∃ p' R, posGet s'.positions id = some p' ∧ nextRewardInfos s.pool s.now = .ok R ∧ s'.pool.rewards = R ∧
      (p'.rewards.getD i {}).owed = wadd64 (p.rewards.getD i {}).owed
        (mulShiftOr0 p.liq (wsub (rinside i s.ticks s.pool.tick p.lower p.upper (R.getD i {}).growth) (rcp i p))) ∧
      rcp i p' = rinside i s.ticks s.pool.tick p.lower p.upper (R.getD i {}).growth := by
  obtain ⟨il, ih⟩ := bounds_init s id p inv g hp hl
  obtain ⟨hR, q, hq, hu⟩ := upd_position hp h
  obtain ⟨liq, _, rfl⟩ := nextPositionUpdate_ok hu
  refine ⟨_, s'.pool.rewards, hq, hR, rfl, ?_⟩
  have hRi := (settled i s _ hinit hR).1
  -- both bounds are initialized, so the program's growth inside is `rinside`
  have key : (nextRewardGrowthsInside s.pool.tick (s.ticks.get p.lower) p.lower (s.ticks.get p.upper) p.upper s'.pool.rewards).getD i 0 =
      rinside i s.ticks s.pool.tick p.lower p.upper (s'.pool.rewards.getD i {}).growth := by
    unfold nextRewardGrowthsInside
    rw [range3_getD _ 0 i hi3]
    simp only [hRi, Bool.not_true, Bool.false_eq_true, if_false]
    exact C07.growthInside_init _ _ _ _ _ _ _ _ il ih
  unfold rcp
  simp only []
  rw [range3_getD (α := PosReward) _ {} i hi3]
  simp only []
  rw [key]
  exact ⟨rfl, rfl⟩

/-- the growth credited at the update is `pendR`, plus the accrual of this update's own settlement when the
    position is in range -/
theorem upd_credits_pendR (i : Nat) (hi3 : i < 3) (s s' : HistState) (id : Nat) (outs : List Nat) (p : PositionD)
    (inv : Inv s) (g : Geo ts0 s) (w : WfR s) (hinit : rinit i s = true)
    (hp : posGet s.positions id = some p) (hl : 0 < p.liq)
    (h : histStep s (.upd id) = .ok (s', outs)) :
    ∃ p', posGet s'.positions id = some p' ∧
      ((p'.rewards.getD i {}).owed = wadd64 (p.rewards.getD i {}).owed (mulShiftOr0 p.liq (pendR i s p)) ∨
       ∃ d, AccrAt i s p d ∧
         (p'.rewards.getD i {}).owed = wadd64 (p.rewards.getD i {}).owed (mulShiftOr0 p.liq (wadd (pendR i s p) d))) := by
  obtain ⟨p', R, hp', hR, _, ho, _⟩ := upd_credits_reward i hi3 s s' id outs p inv g hinit hp hl h
  refine ⟨p', hp', ?_⟩
  rw [ho]
  rcases pendR_settle i hi3 s id p inv w hp hl _ (settled i s R hinit hR).2 with e | ⟨d, a, e⟩
  · rw [e]
    exact Or.inl rfl
  · rw [e]
    exact Or.inr ⟨d, a, rfl⟩


/-! ### from an empty pool -/

/-- **C11, the last link, for every history of a pool started empty**: let `ops1` be ANY history after which
    position `id` holds liquidity and reward `i` is initialized, and `ops2` ANY further history that does not
    change or update that position.  Then the reward growth pending for the position has advanced by exactly a
    list of settlements ⌊dt·emissions/L⌋ made at states of `ops2` at which the position was in range (L ≥ its own
    liquidity) — pro rata to in-range liquidity, nothing for time spent out of range, nothing lost or gained
    through crossings, other positions, emission changes or failing operations.
    (`upd_credits_pendR`: the next update turns exactly that growth, plus its own settlement, into tokens.) -/
theorem reward_pending_history (i : Nat) (hi3 : i < 3) (id : Nat) (p : PoolD) (now : Nat) (af : Option AfInfo)
    (ops1 ops2 : List HistOp)
    (inv0 : Inv { pool := p, now := now, af := af }) (g0 : Geo ts0 { pool := p, now := now, af := af })
    (hR : ∀ r ∈ p.rewards, r.growth < TWO128) (hops1 : ∀ op ∈ ops1, OpOK ts0 op)
    (q : PositionD) (hq : posGet (ops1.foldl histApply { pool := p, now := now, af := af }).positions id = some q)
    (hl : 0 < q.liq) (hinit : rinit i (ops1.foldl histApply { pool := p, now := now, af := af }) = true)
    (hops2 : ∀ op ∈ ops2, OpOK ts0 op ∧ (∀ a b, op ≠ .modify id a b) ∧ op ≠ .upd id) :
    let s1 := ops1.foldl histApply { pool := p, now := now, af := af }
    ∃ q', posGet (ops2.foldl histApply s1).positions id = some q' ∧ ViewR i q q' ∧
      ∃ deltas, pendR i (ops2.foldl histApply s1) q' = wsum (pendR i s1 q) deltas ∧
        ∀ d ∈ deltas, ∃ k, k < ops2.length ∧ AccrAt i ((ops2.take k).foldl histApply s1) q d := by
  intro s1
  obtain ⟨i1, g1, w1⟩ := reach_with WfR (fun s s' op outs => step_keeps_wfR s s' op outs) reward_wfR ops1 _ inv0 g0
    (wfR_init p now af hR) hops1
  exact pendR_history i hi3 id ops2 s1 q i1 g1 w1 hinit hq hl hops2

/-! ### non-vacuity: a concrete history in which reward 0 accrues to a position while in range, not while out -/

def exOpsR1 : List HistOp :=
  [.openPos 1 (-128) 128, .modify 1 1000000000 true, .openPos 2 (-6400) (-64), .modify 2 77777 true,
   .reward 0 (10 * 18446744073709551616) 1000000]
def exOpsR2 : List HistOp :=
  [.clock 110, .swap 6450000 0 true true [0, -5632], .clock 150, .upd 2, .clock 200, .swap 5000 0 false false [-5632, 0]]

-- after exOpsR1 position 1 holds liquidity and reward 0 is initialized; over exOpsR2 (which never touches
-- position 1) 100 s pass in range of position 1 (tick 0), then the first swap takes the price below its
-- range: its pending growth moves by the settlement of those 100 s only, not by the 90 s spent out of range
example : let s1 := exOpsR1.foldl histApply { pool := exPool, now := 10 }
          let s2 := exOpsR2.foldl histApply s1
          ((posGet s1.positions 1).map (·.liq) = some 1000000000 ∧ rinit 0 s1 = true ∧ s1.pool.liq = 1000000000 ∧
           s2.pool.tick < -128 ∧ s2.pool.rewardTs = 200 ∧
           (posGet s2.positions 1).map (pendR 0 s2) =
             (posGet s1.positions 1).map (fun q => wadd (pendR 0 s1 q) (C11.accrual 100 (10 * 18446744073709551616) 1000000000))) = True := by
  decide +kernel

end WP.Reach
