import WP.Props.SwapPath
/-
  Every reachable state of a pool (static or adaptive fee): the two invariants
     `C05.Inv`  (liquidity = covering sum; tick net/gross/initialized = sums over positions)
     `Geo`      (tick index ↔ price consistency; every position on the spacing grid, inside the
                 protocol bounds, lower < upper; machine-type bounds)
  hold after EVERY finite history of operations — including swaps — executed the way the driver and
  the program execute them (a failing operation changes nothing; `reward` commits its partial
  effects).  This discharges the swap case of C05 and the price bound of C03 for pools whose
  swaps run over aligned, consecutive array sequences (which is what the account loader produces:
  `buildSeq_seqOK`).
-/
namespace WP.Reach
open WP WP.Gen WP.C05 WP.C10 WP.Path

def PosOK (ts : Nat) (lo hi : Int) : Prop :=
  lo < hi ∧ lo % (ts : Int) = 0 ∧ hi % (ts : Int) = 0 ∧ MIN_TICK_INDEX ≤ lo ∧ hi ≤ MAX_TICK_INDEX

structure Geo (ts0 : Nat) (s : HistState) : Prop where
  spacing : s.pool.ts = ts0
  tp : TP s.pool.tick s.pool.price
  pos : ∀ kp ∈ s.positions, PosOK s.pool.ts kp.2.lower kp.2.upper
  ts : 0 < s.pool.ts
  liqU : s.pool.liq ≤ U128_MAX
  fee : s.pool.feeRate ≤ FEE_RATE_HARD_LIMIT
  af : ∀ info, s.af = some info → InfoOK info

variable {ts0 : Nat}

theorem mem_posReplace (id : Nat) (v : PositionD) (kp : Nat × PositionD) :
    ∀ l : List (Nat × PositionD), kp ∈ posReplace l id v → kp ∈ l ∨ kp.2 = v := by
  intro l
  induction l with
  | nil => intro h; cases h
  | cons hd tl ih =>
    obtain ⟨k, w⟩ := hd
    intro h
    unfold posReplace at h
    by_cases e : k = id
    · rw [if_pos e] at h
      rcases List.mem_cons.mp h with h | h
      · right; rw [h]
      · left; exact List.mem_cons_of_mem _ h
    · rw [if_neg e] at h
      rcases List.mem_cons.mp h with h | h
      · left; rw [h]; exact List.mem_cons_self
      · rcases ih h with h | h
        · left; exact List.mem_cons_of_mem _ h
        · right; exact h

theorem mem_posSet (id : Nat) (v : PositionD) (kp : Nat × PositionD) :
    ∀ l : List (Nat × PositionD), kp ∈ posSet l id v → kp ∈ l ∨ kp.2 = v := by
  intro l
  induction l with
  | nil => intro h; right; rw [List.mem_singleton.mp h]
  | cons hd tl ih =>
    obtain ⟨k, w⟩ := hd
    intro h
    unfold posSet at h
    by_cases e : k = id
    · rw [if_pos e] at h
      rcases List.mem_cons.mp h with h | h
      · right; rw [h]
      · left; exact List.mem_cons_of_mem _ h
    · rw [if_neg e] at h
      by_cases e2 : id < k
      · rw [if_pos e2] at h
        rcases List.mem_cons.mp h with h | h
        · right; rw [h]
        · left; exact h
      · rw [if_neg e2] at h
        rcases List.mem_cons.mp h with h | h
        · left; rw [h]; exact List.mem_cons_self
        · rcases ih h with h | h
          · left; exact List.mem_cons_of_mem _ h
          · right; exact h

theorem posGet_mem (id : Nat) (v : PositionD) : ∀ l : List (Nat × PositionD), posGet l id = some v → (id, v) ∈ l := by
  intro l
  induction l with
  | nil => intro h; cases h
  | cons hd tl ih =>
    obtain ⟨k, w⟩ := hd
    intro h
    unfold posGet at h
    by_cases e : k = id
    · rw [if_pos e] at h; cases h; rw [e]; exact List.mem_cons_self
    · rw [if_neg e] at h; exact List.mem_cons_of_mem _ (ih h)

theorem tickFacts_of (s : HistState) (inv : Inv s) (g : Geo ts0 s) : TickFacts s.ticks s.positions s.pool.ts :=
  { net := inv.net, gross := inv.gross, init := inv.init,
    ordered := fun kp hk => (g.pos kp hk).1,
    grid := fun kp hk => ⟨(g.pos kp hk).2.1, (g.pos kp hk).2.2.1, (g.pos kp hk).2.2.2.1, (g.pos kp hk).2.2.2.2⟩ }

theorem geo_of_same (s st : HistState) (g : Geo ts0 s)
    (e1 : st.pool.tick = s.pool.tick) (e2 : st.pool.price = s.pool.price) (e3 : st.pool.ts = s.pool.ts)
    (e4 : st.pool.feeRate = s.pool.feeRate) (e5 : st.af = s.af) (hL : st.pool.liq ≤ U128_MAX)
    (hpos : ∀ kp ∈ st.positions, PosOK s.pool.ts kp.2.lower kp.2.upper) : Geo ts0 st :=
  { spacing := by rw [e3]; exact g.spacing, tp := by rw [e1, e2]; exact g.tp,
    pos := by rw [e3]; exact hpos,
    ts := by rw [e3]; exact g.ts, liqU := hL, fee := by rw [e4]; exact g.fee, af := by rw [e5]; exact g.af }

theorem replace_same_range (s : HistState) (g : Geo ts0 s) (id : Nat) (old new : PositionD) (h : posGet s.positions id = some old)
    (b : new.lower = old.lower) (c : new.upper = old.upper) :
    ∀ kp ∈ posReplace s.positions id new, PosOK s.pool.ts kp.2.lower kp.2.upper := by
  intro kp hk
  rcases mem_posReplace id new kp s.positions hk with h1 | h1
  · exact g.pos kp h1
  · rw [h1, b, c]; exact g.pos _ (posGet_mem id old _ h)

theorem geo_modify (s s' : HistState) (id amount : Nat) (positive : Bool) (outs : List Nat) (g : Geo ts0 s)
    (h : histStep s (.modify id amount positive) = .ok (s', outs)) : Geo ts0 s' := by
  obtain ⟨_, _, pos, u, da, db, hpos, hu, _, _, rfl, _⟩ := histStep_modify_ok h
  obtain ⟨_, _, hpl, _, _, hpu⟩ := calcModify_ok hu
  obtain ⟨liq, _, hpu⟩ := nextPositionUpdate_ok hpu
  exact geo_of_same s _ g rfl rfl rfl rfl rfl ((nextWhirlpoolLiquidity_ok hpl).2 g.liqU)
    (replace_same_range s g id pos _ hpos (by rw [hpu]) (by rw [hpu]))

theorem posOK_of_usable (ts : Nat) (lo hi : Int) (hl : isUsableTick lo ts = true) (hu : isUsableTick hi ts = true)
    (hlt : lo < hi) : PosOK ts lo hi := by
  unfold isUsableTick at hl hu
  simp only [Bool.and_eq_true, decide_eq_true_eq] at hl hu
  exact ⟨hlt, hl.2, hu.2, hl.1.1, hu.1.2⟩

theorem geo_quiet (s s' : HistState) (g : Geo ts0 s) (q : Quiet s s') : Geo ts0 s' := by
  refine geo_of_same s s' g (by rw [q.pool]) (by rw [q.pool]) (by rw [q.pool]) (by rw [q.pool]) q.af
    (by rw [q.pool]; exact g.liqU) ?_
  rcases q.positions with hp | ⟨id, old, new, hpos, hp, _, b, c⟩ | ⟨id, new, _, hp, _, hl, hu, hlt⟩
  · rw [hp]; exact g.pos
  · rw [hp]; exact replace_same_range s g id old new hpos b c
  · intro kp hk
    rw [hp] at hk
    rcases mem_posSet id new kp s.positions hk with h1 | h1
    · exact g.pos kp h1
    · rw [h1]; exact posOK_of_usable _ _ _ hl hu hlt


/-! ### the swap -/

theorem swap_step (s s' : HistState) (amount limit : Nat) (isInput aToB : Bool) (arrays : List Int) (outs : List Nat)
    (inv : Inv s) (g : Geo ts0 s) (hseq : SeqOK arrays s.pool.ts aToB) (hamt : amount ≤ U64_MAX)
    (h : histStep s (.swap amount limit isInput aToB arrays) = .ok (s', outs)) :
    Inv s' ∧ Geo ts0 s' ∧
    (if aToB then adjLimit limit aToB ≤ s'.pool.price ∧ s'.pool.price ≤ s.pool.price
     else s.pool.price ≤ s'.pool.price ∧ s'.pool.price ≤ adjLimit limit aToB) := by
  obtain ⟨_, u, hsw, _, rfl, _⟩ := histStep_swap_ok h
  obtain ⟨q1, q2, q3, q4, q5, q6, q7⟩ := swap_path s.pool s.ticks s.positions arrays amount limit isInput aToB s.now SWAP_FUEL s.af u
    g.ts hseq inv.liq (tickFacts_of s inv g) g.tp g.liqU g.fee hamt g.af hsw
  rw [updateAfterSwap_eq]
  refine ⟨⟨q1, q2.net, q2.gross, q2.init, inv.ordered⟩,
    { spacing := g.spacing, tp := q3, pos := g.pos, ts := g.ts, liqU := q4, fee := g.fee, af := ?_ }, q5⟩
  -- the fee mode stays: a static pool returns no variables, an adaptive one returns valid ones
  intro info hi
  change u.afInfo.or s.af = some info at hi
  cases hs : s.af with
  | none => rw [q6 hs, hs] at hi; cases hi
  | some i0 =>
    obtain ⟨info', e1, _, e3⟩ := q7 i0 hs
    rw [e1] at hi
    cases hi
    exact e3

/-! ### reward configuration (partial commits) -/

/-- the parts of the state the two invariants read -/
def Same (s st : HistState) : Prop :=
  st.pool.liq = s.pool.liq ∧ st.pool.tick = s.pool.tick ∧ st.pool.price = s.pool.price ∧ st.pool.ts = s.pool.ts ∧
  st.pool.feeRate = s.pool.feeRate ∧ st.ticks = s.ticks ∧ st.positions = s.positions ∧ st.af = s.af

theorem same_keeps (s st : HistState) (h : Same s st) (inv : Inv s) (g : Geo ts0 s) : Inv st ∧ Geo ts0 st := by
  obtain ⟨a, b, c, d, e, f, p, q⟩ := h
  constructor
  · exact inv_of_same s st inv a b f (fun _ _ => by rw [p]) (by rw [p]; exact inv.ordered)
  · exact geo_of_same s st g b c d e q (by rw [a]; exact g.liqU) (by rw [p]; exact g.pos)

theorem reward_same (s : HistState) (i e t : Nat) : Same s (histReward s i e t).1 := by
  obtain ⟨r, ts, v, h⟩ := histReward_frame s i e t
  rw [h]
  exact ⟨rfl, rfl, rfl, rfl, rfl, rfl, rfl, rfl⟩


/-! ### every reachable state -/

/-- the transition the driver (and the program) executes: a failing operation changes nothing,
    `reward` commits its partial effects -/
def histApply (s : HistState) (op : HistOp) : HistState :=
  match op with
  | .reward i e t => (histReward s i e t).1
  | op => match histStep s op with
    | .ok r => r.1
    | .error _ => s

/-- the only requirement on a history: its swaps run over aligned consecutive array sequences
    (the account loader guarantees it: `buildSeq_seqOK`) and their amount is a u64 -/
def OpOK (ts : Nat) : HistOp → Prop
  | .swap amount _ _ aToB arrays => SeqOK arrays ts aToB ∧ amount ≤ U64_MAX
  | _ => True

theorem apply_ok (s s' : HistState) (op : HistOp) (outs : List Nat) (hnr : ∀ i e t, op ≠ .reward i e t)
    (h : histStep s op = .ok (s', outs)) : histApply s op = s' := by
  cases op <;> first | (exfalso; exact hnr _ _ _ rfl) | (unfold histApply; simp only [h])

theorem histApply_cases (s : HistState) (op : HistOp) :
    (∃ i e t, op = .reward i e t ∧ histApply s op = (histReward s i e t).1) ∨
    (∃ s' outs, histStep s op = .ok (s', outs) ∧ histApply s op = s') ∨ histApply s op = s := by
  cases op
  case reward i e t => exact Or.inl ⟨i, e, t, rfl, rfl⟩
  all_goals
    cases h : histStep s _ with
    | ok r => exact Or.inr (Or.inl ⟨r.1, r.2, rfl, by simp only [histApply, h]⟩)
    | error e => exact Or.inr (Or.inr (by simp only [histApply, h]))

theorem histApply_ind (P : HistState → Prop) (s : HistState) (op : HistOp) (hs : P s)
    (hrew : ∀ i e t, op = .reward i e t → P (histReward s i e t).1)
    (hstep : ∀ s' outs, histStep s op = .ok (s', outs) → P s') : P (histApply s op) := by
  rcases histApply_cases s op with ⟨i, e, t, h1, h2⟩ | ⟨s', outs, h1, h2⟩ | h2 <;> rw [h2]
  · exact hrew i e t h1
  · exact hstep s' outs h1
  · exact hs

theorem hist_induct (I : HistState → Prop)
    (hstep : ∀ s s' op outs, I s → OpOK ts0 op → histStep s op = .ok (s', outs) → I s')
    (hrew : ∀ s i e t, I s → I (histReward s i e t).1) :
    ∀ (ops : List HistOp) (s : HistState), I s → (∀ op ∈ ops, OpOK ts0 op) → I (ops.foldl histApply s) := by
  intro ops
  induction ops with
  | nil => intro s h _; exact h
  | cons op rest ih =>
    intro s h hops
    refine ih _ ?_ (fun o ho => hops o (List.mem_cons_of_mem _ ho))
    exact histApply_ind I s op h (fun i e t _ => hrew s i e t h)
      (fun s' outs h1 => hstep s s' op outs h (hops op List.mem_cons_self) h1)

theorem step_keeps (s s' : HistState) (op : HistOp) (outs : List Nat) (inv : Inv s) (g : Geo ts0 s) (hop : OpOK ts0 op)
    (h : histStep s op = .ok (s', outs)) : Inv s' ∧ Geo ts0 s' := by
  rcases histStep_cases h with ⟨amount, limit, isInput, aToB, arrays, rfl⟩ | ⟨id, a, p, rfl⟩ | q
  · unfold OpOK at hop
    rw [← g.spacing] at hop
    obtain ⟨a, b, _⟩ := swap_step s s' amount limit isInput aToB arrays outs inv g hop.1 hop.2 h
    exact ⟨a, b⟩
  · exact ⟨inv_modify s s' id a p outs inv h, geo_modify s s' id a p outs g h⟩
  · exact ⟨inv_quiet s s' inv q, geo_quiet s s' g q⟩

theorem apply_keeps (s : HistState) (op : HistOp) (inv : Inv s) (g : Geo ts0 s) (hop : OpOK ts0 op) :
    Inv (histApply s op) ∧ Geo ts0 (histApply s op) :=
  histApply_ind (fun st => Inv st ∧ Geo ts0 st) s op ⟨inv, g⟩
    (fun i e t _ => same_keeps s _ (reward_same s i e t) inv g)
    (fun s' outs h => step_keeps s s' op outs inv g hop h)

/-- **C05 / C09 at every reachable state of a pool, swaps included**: after ANY finite
    history — any number of positions, any interleaving of opens, liquidity changes, fee and reward
    collections, reward configuration, clock moves and swaps of any size, direction and limit —
    the pool liquidity is the sum of the liquidity of the positions covering the current tick, every
    tick's net / gross / initialized flag are the sums over the positions bounded by it, and the
    current tick index is consistent with the current price. -/
theorem reach (ops : List HistOp) : ∀ (s : HistState), Inv s → Geo ts0 s → (∀ op ∈ ops, OpOK ts0 op) →
    Inv (ops.foldl histApply s) ∧ Geo ts0 (ops.foldl histApply s) :=
  fun s inv g hops => hist_induct (fun st => Inv st ∧ Geo ts0 st)
    (fun s s' op outs h hop hs => step_keeps s s' op outs h.1 h.2 hop hs)
    (fun s i e t h => same_keeps s _ (reward_same s i e t) h.1 h.2) ops s ⟨inv, g⟩ hops

/-- a further invariant may rely on the two above at every step -/
theorem reach_with (J : HistState → Prop)
    (hstep : ∀ (s s' : HistState) (op : HistOp) (outs : List Nat), Inv s → Geo ts0 s → J s → OpOK ts0 op →
      histStep s op = .ok (s', outs) → J s')
    (hrew : ∀ s i e t, J s → J (histReward s i e t).1) (ops : List HistOp) (s : HistState)
    (inv : Inv s) (g : Geo ts0 s) (j : J s) (hops : ∀ op ∈ ops, OpOK ts0 op) :
    Inv (ops.foldl histApply s) ∧ Geo ts0 (ops.foldl histApply s) ∧ J (ops.foldl histApply s) :=
  hist_induct (fun st => Inv st ∧ Geo ts0 st ∧ J st)
    (fun s s' op outs h hop hs =>
      have k := step_keeps s s' op outs h.1 h.2.1 hop hs
      ⟨k.1, k.2, hstep s s' op outs h.1 h.2.1 h.2.2 hop hs⟩)
    (fun s i e t h =>
      have k := same_keeps s _ (reward_same s i e t) h.1 h.2.1
      ⟨k.1, k.2, hrew s i e t h.2.2⟩) ops s ⟨inv, g, j⟩ hops

theorem reach_init (p : PoolD) (now : Nat) (h0 : p.liq = 0) (hts : 0 < p.ts) (hfee : p.feeRate ≤ FEE_RATE_HARD_LIMIT)
    (hp1 : MIN_SQRT_PRICE_X64 ≤ p.price) (hp2 : p.price ≤ MAX_SQRT_PRICE_X64) (htick : p.tick = ti p.price) :
    Inv { pool := p, now := now } ∧ Geo p.ts { pool := p, now := now } := by
  refine ⟨inv_init p h0 now, ?_⟩
  exact { spacing := rfl, tp := by show TP p.tick p.price; rw [htick]; exact TP_ti _ hp1 hp2,
          pos := fun kp hk => (by cases hk), ts := hts, liqU := by show p.liq ≤ U128_MAX; rw [h0]; decide,
          fee := hfee, af := fun info hi => (by cases hi) }


/-! ### the sequences the account loader builds satisfy `OpOK` -/

theorem prefix_get (l1 l2 : List Int) (h : l1 <+: l2) (k : Nat) (a : Int) (hk : l1[k]? = some a) : l2[k]? = some a := by
  obtain ⟨t, rfl⟩ := h
  have hlt : k < l1.length := (List.getElem?_eq_some_iff.mp hk).1
  rw [List.getElem?_append_left hlt]; exact hk

theorem start_indexes_aligned (cur : Int) (ts : Nat) (d : Bool) : ∀ x ∈ startTickIndexes cur ts d, x % (ts : Int) = 0 := by
  intro x hx
  unfold startTickIndexes at hx
  simp only [] at hx
  have hm := (List.mem_filter.mp hx).1
  obtain ⟨o, _, ho⟩ := List.mem_map.mp hm
  rw [← ho]
  apply Int.emod_eq_zero_of_dvd
  have h1 : (ts : Int) ∣ ((TICK_ARRAY_SIZE : Nat) : Int) * (ts : Int) := Int.dvd_mul_left _ _
  exact Int.dvd_add (Int.dvd_trans h1 (Int.dvd_mul_left _ _)) (Int.dvd_trans h1 (Int.dvd_mul_left _ _))

/-- whatever accounts the caller supplies, a sequence the loader accepts is aligned and consecutive -/
theorem buildSeq_seqOK (cur : Int) (ts : Nat) (aToB : Bool) (accts : List Supplied) (seq : List Int) (hts : 0 < ts)
    (h1 : MIN_TICK_INDEX ≤ cur) (h2 : cur ≤ MAX_TICK_INDEX) (h : buildSeq cur ts aToB accts = .ok seq) :
    SeqOK seq ts aToB := by
  obtain ⟨_, hpre, _⟩ := buildSeq_spec cur ts aToB accts seq h
  obtain ⟨cd, cu⟩ := start_indexes_consec cur ts hts h1 h2
  refine ⟨?_, fun k st hk => start_indexes_aligned cur ts aToB st (hpre.subset (List.mem_of_getElem? hk))⟩
  cases aToB
  · show ConsecUp seq ts
    exact fun k a b ha hb => cu k a b (prefix_get _ _ hpre k a ha) (prefix_get _ _ hpre (k + 1) b hb)
  · show ConsecDown seq ts
    exact fun k a b ha hb => cd k a b (prefix_get _ _ hpre k a ha) (prefix_get _ _ hpre (k + 1) b hb)


/-! ### non-vacuity: a concrete history with a crossing swap meets every hypothesis -/

def exPool : PoolD := { ts := 64, feeRate := 3000, protoRate := 300, liq := 0, price := 18446744073709551616, tick := 0 }
def exOps : List HistOp :=
  [.openPos 1 (-128) 128, .modify 1 1000000000 true, .openPos 2 (-6400) (-64), .modify 2 77777 true,
   .swap 6450000 0 true true [0, -5632], .swap 5000 0 false false [-5632, 0]]

theorem pair_next {α : Type} (a b x y : α) (k : Nat) (hx : [a, b][k]? = some x) (hy : [a, b][k + 1]? = some y) :
    x = a ∧ y = b := by
  match k with
  | 0 => cases hx; cases hy; exact ⟨rfl, rfl⟩
  | (k + 1) => cases hy

theorem seqOK_pair (a b : Int) (ts : Nat) (aToB : Bool)
    (hb : b = if aToB then a - 88 * (ts : Int) else a + 88 * (ts : Int))
    (h1 : a % (ts : Int) = 0) (h2 : b % (ts : Int) = 0) : SeqOK [a, b] ts aToB := by
  constructor
  · cases aToB
    · intro k x y hx hy
      obtain ⟨rfl, rfl⟩ := pair_next a b x y k hx hy
      exact hb
    · intro k x y hx hy
      obtain ⟨rfl, rfl⟩ := pair_next a b x y k hx hy
      exact hb
  · intro k st hk
    match k with
    | 0 => cases hk; exact h1
    | 1 => cases hk; exact h2
    | (k + 2) => cases hk

example : OpOK 64 (.swap 6450000 0 true true [0, -5632]) ∧ OpOK 64 (.swap 5000 0 false false [-5632, 0]) :=
  ⟨⟨seqOK_pair 0 (-5632) 64 true (by decide) (by decide) (by decide), by decide⟩,
   ⟨seqOK_pair (-5632) 0 64 false (by decide) (by decide) (by decide), by decide⟩⟩

-- the history really executes: both swaps succeed, the first one crosses tick −128 and leaves range 1
example : let s := exOps.foldl histApply { pool := exPool, now := 10 }
    (s.pool.tick < -128 ∧ s.pool.liq = 77777 ∧ s.pool.price < exPool.price ∧ 16216550075672095672 < s.pool.price) = True := by decide +kernel

theorem reach_init_adaptive (p : PoolD) (now : Nat) (info : AfInfo) (h0 : p.liq = 0) (hts : 0 < p.ts)
    (hfee : p.feeRate ≤ FEE_RATE_HARD_LIMIT) (hp1 : MIN_SQRT_PRICE_X64 ≤ p.price) (hp2 : p.price ≤ MAX_SQRT_PRICE_X64)
    (htick : p.tick = ti p.price) (hinfo : InfoOK info) :
    Inv { pool := p, now := now, af := some info } ∧ Geo p.ts { pool := p, now := now, af := some info } := by
  obtain ⟨i0, g0⟩ := reach_init p now h0 hts hfee hp1 hp2 htick
  constructor
  · exact inv_of_same _ _ i0 rfl rfl rfl (fun _ _ => rfl) i0.ordered
  · exact { spacing := rfl, tp := g0.tp, pos := g0.pos, ts := hts, liqU := g0.liqU, fee := hfee,
            af := fun i hi => by cases hi; exact hinfo }

def exInfo : AfInfo :=
  AfInfo.mk { filterPeriod := 30, decayPeriod := 600, reductionFactor := 5000, controlFactor := 4000,
              maxVolAcc := 350000, groupSize := 64, majorSwapThresholdTicks := 64 } {}

example : InfoOK exInfo := ⟨by decide, by decide, by decide, by decide, by decide, by decide⟩

-- the same history on an adaptive-fee pool executes, crosses tick −128 and moves the fee variables
example : let s := exOps.foldl histApply { pool := exPool, now := 10, af := some exInfo }
    (s.pool.tick < -128 ∧ s.pool.liq = 77777 ∧ s.pool.price < exPool.price ∧
      (s.af.map fun i => decide (i.variables.volAcc > 0)) = some true) = True := by decide +kernel

