import WP.Props.Reach
import WP.Props.GrowthPath
import WP.Props.RewardPath
/-
  C07 and C11 at every reachable state: the growth accounting theorems of one swap
  (`Growth.swap_fee_growth`, `Growth.swap_reward_growth`) apply to EVERY swap of EVERY history, because
  their extra hypothesis — all stored growth values are u128 (`Wf` for fees, `WfR` for rewards) — is
  itself an invariant of the history.
-/
namespace WP.Reach
open WP WP.Gen WP.C05 WP.C10 WP.Path WP.Growth

structure Wf (s : HistState) : Prop where
  ticks : TicksWF s.ticks
  fgA : s.pool.fgA < TWO128
  fgB : s.pool.fgB < TWO128

theorem two128_pos : 0 < TWO128 := by decide

theorem wf_of_same (s st : HistState) (w : Wf s) (e1 : st.ticks = s.ticks) (e2 : st.pool.fgA = s.pool.fgA)
    (e3 : st.pool.fgB = s.pool.fgB) : Wf st :=
  { ticks := by rw [e1]; exact w.ticks, fgA := by rw [e2]; exact w.fgA, fgB := by rw [e3]; exact w.fgB }

theorem wf_init (p : PoolD) (now : Nat) (af : Option AfInfo) (hA : p.fgA < TWO128) (hB : p.fgB < TWO128) :
    Wf { pool := p, now := now, af := af } :=
  { ticks := fun _ => ⟨two128_pos, two128_pos⟩, fgA := hA, fgB := hB }

theorem ticksWF_set (ticks : TickMap) (i : Int) (v : TickData) (wf : TicksWF ticks) (hv : v.fgoA < TWO128 ∧ v.fgoB < TWO128) :
    TicksWF (ticks.set i v) :=
  tick_set_all (fun t => t.fgoA < TWO128 ∧ t.fgoB < TWO128) ticks i v wf hv

/-- the outside growths of a tick after a liquidity change are its old ones, the global ones or 0 -/
theorem tickModify_wf (t t' : TickData) (tickIndex cur : Int) (fgA fgB : Nat) (rw : List RewardInfo) (delta : Int) (isUpper : Bool)
    (ht : t.fgoA < TWO128 ∧ t.fgoB < TWO128) (hA : fgA < TWO128) (hB : fgB < TWO128)
    (h : nextTickModifyLiquidityUpdate t tickIndex cur fgA fgB rw delta isUpper = .ok t') :
    t'.fgoA < TWO128 ∧ t'.fgoB < TWO128 := by
  rcases tickModify_cases h with ⟨_, rfl⟩ | ⟨_, gross, _, ⟨_, rfl⟩ | ⟨_, net, _, rfl⟩⟩
  · exact ht
  · exact ⟨two128_pos, two128_pos⟩
  · constructor
    · show (if t.gross = 0 then (if cur ≥ tickIndex then fgA else 0) else t.fgoA) < TWO128
      split
      · split
        · exact hA
        · exact two128_pos
      · exact ht.1
    · show (if t.gross = 0 then (if cur ≥ tickIndex then fgB else 0) else t.fgoB) < TWO128
      split
      · split
        · exact hB
        · exact two128_pos
      · exact ht.2

theorem wf_modify (s s' : HistState) (id amount : Nat) (positive : Bool) (outs : List Nat) (w : Wf s)
    (h : histStep s (.modify id amount positive) = .ok (s', outs)) : Wf s' := by
  obtain ⟨_, _, pos, u, da, db, _, hu, _, _, rfl, _⟩ := histStep_modify_ok h
  obtain ⟨_, _, _, htl, htu, _⟩ := calcModify_ok hu
  have a := tickModify_wf _ _ _ _ _ _ _ _ _ (w.ticks pos.lower) w.fgA w.fgB htl
  have b := tickModify_wf _ _ _ _ _ _ _ _ _ (w.ticks pos.upper) w.fgA w.fgB htu
  exact { ticks := ticksWF_set _ _ _ (ticksWF_set _ _ _ w.ticks a) b, fgA := w.fgA, fgB := w.fgB }

theorem wf_quiet (s s' : HistState) (w : Wf s) (q : Quiet s s') : Wf s' :=
  wf_of_same s s' w q.ticks (by rw [q.pool]) (by rw [q.pool])

variable {ts0 : Nat}

/-- **C07 for a swap of a history state**: the conclusion of `swap_fee_growth`, plus `Wf` afterwards -/
theorem swap_step_growth (s s' : HistState) (amount limit : Nat) (isInput aToB : Bool) (arrays : List Int) (outs : List Nat)
    (inv : Inv s) (g : Geo ts0 s) (w : Wf s) (hseq : SeqOK arrays s.pool.ts aToB) (hamt : amount ≤ U64_MAX)
    (h : histStep s (.swap amount limit isInput aToB arrays) = .ok (s', outs)) :
    Wf s' ∧
    ∃ log : List (Int × Nat),
      (if aToB then s'.pool.fgA else s'.pool.fgB) = wsum (if aToB then s.pool.fgA else s.pool.fgB) (log.map (·.2)) ∧
      (if aToB then s'.pool.fgB else s'.pool.fgA) = (if aToB then s.pool.fgB else s.pool.fgA) ∧
      (∀ e ∈ log, ∃ lpFee, e.2 = share (sumBy (inRangeLiq e.1) s.positions).toNat lpFee) ∧
      (∀ lo hi, lo < hi → Bound s.positions lo → Bound s.positions hi →
        inside aToB s'.ticks s'.pool.tick lo hi (if aToB then s'.pool.fgA else s'.pool.fgB) =
          wsum (inside aToB s.ticks s.pool.tick lo hi (if aToB then s.pool.fgA else s.pool.fgB)) (inRangeDeltas log lo hi) ∧
        inside (!aToB) s'.ticks s'.pool.tick lo hi (if aToB then s'.pool.fgB else s'.pool.fgA) =
          inside (!aToB) s.ticks s.pool.tick lo hi (if aToB then s.pool.fgB else s.pool.fgA)) := by
  obtain ⟨_, u, hsw, _, rfl, _⟩ := histStep_swap_ok h
  obtain ⟨log, q1, q2, q3, q4, q5⟩ := swap_fee_growth s.pool s.ticks s.positions arrays amount limit isInput aToB s.now SWAP_FUEL s.af u
    g.ts hseq inv.liq (tickFacts_of s inv g) g.tp g.liqU g.fee hamt g.af w.ticks w.fgA w.fgB hsw
  rw [updateAfterSwap_eq]
  -- the input token's growth is the swap's `fgIn`, the other one does not move
  have kin : (if aToB then (if aToB then u.fgIn else s.pool.fgA) else (if aToB then s.pool.fgB else u.fgIn)) = u.fgIn := by
    cases aToB <;> rfl
  have kout : (if aToB then (if aToB then s.pool.fgB else u.fgIn) else (if aToB then u.fgIn else s.pool.fgA)) =
      (if aToB then s.pool.fgB else s.pool.fgA) := by
    cases aToB <;> rfl
  refine ⟨{ ticks := q4, fgA := ?_, fgB := ?_ }, log, kin.trans q1, kout, q2, ?_⟩
  · show (if aToB then u.fgIn else s.pool.fgA) < TWO128
    split
    · exact q5
    · exact w.fgA
  · show (if aToB then s.pool.fgB else u.fgIn) < TWO128
    split
    · exact w.fgB
    · exact q5
  · intro lo hi hlh bl bh
    simp only [kin, kout]
    exact q3 lo hi hlh bl bh

theorem reward_fg (s : HistState) (i e t : Nat) :
    (histReward s i e t).1.pool.fgA = s.pool.fgA ∧ (histReward s i e t).1.pool.fgB = s.pool.fgB := by
  obtain ⟨r, ts, v, h⟩ := histReward_frame s i e t
  rw [h]
  exact ⟨rfl, rfl⟩

theorem reward_wf (s : HistState) (i e t : Nat) (w : Wf s) : Wf (histReward s i e t).1 :=
  wf_of_same s _ w (reward_same s i e t).2.2.2.2.2.1 (reward_fg s i e t).1 (reward_fg s i e t).2

theorem step_keeps_wf (s s' : HistState) (op : HistOp) (outs : List Nat) (inv : Inv s) (g : Geo ts0 s) (w : Wf s)
    (hop : OpOK ts0 op) (h : histStep s op = .ok (s', outs)) : Wf s' := by
  rcases histStep_cases h with ⟨amount, limit, isInput, aToB, arrays, rfl⟩ | ⟨id, a, p, rfl⟩ | q
  · unfold OpOK at hop
    rw [← g.spacing] at hop
    exact (swap_step_growth s s' amount limit isInput aToB arrays outs inv g w hop.1 hop.2 h).1
  · exact wf_modify s s' id a p outs w h
  · exact wf_quiet s s' w q

theorem apply_keeps_wf (s : HistState) (op : HistOp) (inv : Inv s) (g : Geo ts0 s) (w : Wf s) (hop : OpOK ts0 op) :
    Wf (histApply s op) :=
  histApply_ind Wf s op w (fun i e t _ => reward_wf s i e t w) (fun s' outs h => step_keeps_wf s s' op outs inv g w hop h)

theorem reach_wf (ops : List HistOp) : ∀ (s : HistState), Inv s → Geo ts0 s → Wf s → (∀ op ∈ ops, OpOK ts0 op) →
    Inv (ops.foldl histApply s) ∧ Geo ts0 (ops.foldl histApply s) ∧ Wf (ops.foldl histApply s) :=
  fun s inv g w hops => reach_with Wf (fun s s' op outs => step_keeps_wf s s' op outs) reward_wf ops s inv g w hops

/-- **C07 over histories**: after ANY history of a pool started empty, ANY further swap distributes
    its LP fees as `swap_step_growth` says — each step's fee pro rata over the liquidity in range at
    that step, credited to the growth inside exactly the ranges containing the tick of that step. -/
theorem history_fee_growth (p : PoolD) (now : Nat) (af : Option AfInfo) (ops : List HistOp)
    (inv0 : Inv { pool := p, now := now, af := af }) (g0 : Geo ts0 { pool := p, now := now, af := af })
    (hA : p.fgA < TWO128) (hB : p.fgB < TWO128) (hops : ∀ op ∈ ops, OpOK ts0 op)
    (amount limit : Nat) (isInput aToB : Bool) (arrays : List Int) (s' : HistState) (outs : List Nat)
    (hseq : SeqOK arrays ts0 aToB) (hamt : amount ≤ U64_MAX)
    (h : histStep (ops.foldl histApply { pool := p, now := now, af := af }) (.swap amount limit isInput aToB arrays) = .ok (s', outs)) :
    let s := ops.foldl histApply { pool := p, now := now, af := af }
    ∃ log : List (Int × Nat),
      (∀ e ∈ log, ∃ lpFee, e.2 = share (sumBy (inRangeLiq e.1) s.positions).toNat lpFee) ∧
      (∀ lo hi, lo < hi → Bound s.positions lo → Bound s.positions hi →
        inside aToB s'.ticks s'.pool.tick lo hi (if aToB then s'.pool.fgA else s'.pool.fgB) =
          wsum (inside aToB s.ticks s.pool.tick lo hi (if aToB then s.pool.fgA else s.pool.fgB)) (inRangeDeltas log lo hi) ∧
        inside (!aToB) s'.ticks s'.pool.tick lo hi (if aToB then s'.pool.fgB else s'.pool.fgA) =
          inside (!aToB) s.ticks s.pool.tick lo hi (if aToB then s.pool.fgB else s.pool.fgA)) := by
  intro s
  obtain ⟨i1, g1, w1⟩ := reach_wf ops _ inv0 g0 (wf_init p now af hA hB) hops
  have hseq' : SeqOK arrays s.pool.ts aToB := by rw [g1.spacing]; exact hseq
  obtain ⟨_, log, _, _, q2, q3⟩ := swap_step_growth s s' amount limit isInput aToB arrays outs i1 g1 w1 hseq' hamt h
  exact ⟨log, q2, q3⟩

/-! ### non-vacuity: the first swap of the example history of Reach.lean -/

example : (∃ s' outs, histStep ((exOps.take 4).foldl histApply { pool := exPool, now := 10 })
    (.swap 6450000 0 true true [0, -5632]) = .ok (s', outs)) ∧
    Bound ((exOps.take 4).foldl histApply { pool := exPool, now := 10 }).positions (-128) ∧
    Bound ((exOps.take 4).foldl histApply { pool := exPool, now := 10 }).positions 128 := by
  refine ⟨?_, by unfold Bound; decide +kernel, by unfold Bound; decide +kernel⟩
  have : (histStep ((exOps.take 4).foldl histApply { pool := exPool, now := 10 })
      (.swap 6450000 0 true true [0, -5632])).toOption.isSome = true := by decide +kernel
  cases h : histStep ((exOps.take 4).foldl histApply { pool := exPool, now := 10 }) (.swap 6450000 0 true true [0, -5632]) with
  | error e => rw [h] at this; cases this
  | ok r => exact ⟨r.1, r.2, rfl⟩


/-! ### the same for rewards (C11) -/

structure WfR (s : HistState) : Prop where
  ticks : RewardsWF s.ticks
  glob : ∀ r ∈ s.pool.rewards, r.growth < TWO128

theorem getD_lt (l : List Nat) (N : Nat) (hN : 0 < N) (h : ∀ x ∈ l, x < N) (i : Nat) : l.getD i 0 < N := by
  unfold List.getD
  cases hget : l[i]? with
  | none => exact hN
  | some x => exact h x (List.mem_of_getElem? hget)

theorem getD_growth_lt (rewards : List RewardInfo) (h : ∀ r ∈ rewards, r.growth < TWO128) (i : Nat) :
    ((rewards.map (·.growth)).getD i 0) < TWO128 := by
  refine getD_lt _ _ two128_pos (fun x hx => ?_) i
  obtain ⟨r, hr, e⟩ := List.mem_map.mp hx
  rw [← e]; exact h r hr

theorem ro_default (i : Nat) : ro i ({} : TickData) < TWO128 :=
  getD_lt [0, 0, 0] _ two128_pos (by decide) i

theorem wfR_init (p : PoolD) (now : Nat) (af : Option AfInfo) (hR : ∀ r ∈ p.rewards, r.growth < TWO128) :
    WfR { pool := p, now := now, af := af } :=
  { ticks := fun _ i _ => ro_default i, glob := hR }

theorem rewardsWF_set (ticks : TickMap) (i : Int) (v : TickData) (wf : RewardsWF ticks) (hv : ∀ k, k < 3 → ro k v < TWO128) :
    RewardsWF (ticks.set i v) :=
  tick_set_all (fun t => ∀ k, k < 3 → ro k t < TWO128) ticks i v wf hv

theorem tickModify_wfR (t t' : TickData) (tickIndex cur : Int) (fgA fgB : Nat) (rw : List RewardInfo) (delta : Int) (isUpper : Bool)
    (ht : ∀ i, i < 3 → ro i t < TWO128) (hrw : ∀ r ∈ rw, r.growth < TWO128)
    (h : nextTickModifyLiquidityUpdate t tickIndex cur fgA fgB rw delta isUpper = .ok t') :
    ∀ i, i < 3 → ro i t' < TWO128 := by
  rcases tickModify_cases h with ⟨_, rfl⟩ | ⟨_, gross, _, ⟨_, rfl⟩ | ⟨_, net, _, rfl⟩⟩
  · exact ht
  · exact fun i _ => ro_default i
  · intro i hi
    show (if t.gross = 0 then (if cur ≥ tickIndex then rw.map (·.growth) else [0, 0, 0]) else t.rgo).getD i 0 < TWO128
    split
    · split
      · exact getD_growth_lt rw hrw i
      · exact ro_default i
    · exact ht i hi

theorem wfR_modify (s s' : HistState) (id amount : Nat) (positive : Bool) (outs : List Nat) (w : WfR s)
    (h : histStep s (.modify id amount positive) = .ok (s', outs)) : WfR s' := by
  obtain ⟨_, _, pos, u, da, db, _, hu, _, _, rfl, _⟩ := histStep_modify_ok h
  obtain ⟨_, hrw, _, htl, htu, _⟩ := calcModify_ok hu
  have hrwf := rewards_next_lt _ _ _ w.glob hrw
  have a := tickModify_wfR _ _ _ _ _ _ _ _ _ (w.ticks pos.lower) hrwf htl
  have b := tickModify_wfR _ _ _ _ _ _ _ _ _ (w.ticks pos.upper) hrwf htu
  exact { ticks := rewardsWF_set _ _ _ (rewardsWF_set _ _ _ w.ticks a) b, glob := hrwf }

/-- **C11 for a swap of a history state** -/
theorem swap_step_reward (s s' : HistState) (amount limit : Nat) (isInput aToB : Bool) (arrays : List Int) (outs : List Nat)
    (inv : Inv s) (g : Geo ts0 s) (w : WfR s) (hseq : SeqOK arrays s.pool.ts aToB) (hamt : amount ≤ U64_MAX)
    (h : histStep s (.swap amount limit isInput aToB arrays) = .ok (s', outs)) :
    WfR s' ∧ nextRewardInfos s.pool s.now = .ok s'.pool.rewards ∧
      ∀ i, i < 3 → (s'.pool.rewards.getD i {}).initialized = true → ∀ lo hi, lo < hi → Bound s.positions lo → Bound s.positions hi →
        C07.insideInit s'.pool.tick lo (ro i (s'.ticks.get lo)) hi (ro i (s'.ticks.get hi)) (s'.pool.rewards.getD i {}).growth =
          C07.insideInit s.pool.tick lo (ro i (s.ticks.get lo)) hi (ro i (s.ticks.get hi)) (s'.pool.rewards.getD i {}).growth := by
  obtain ⟨_, u, hsw, _, rfl, _⟩ := histStep_swap_ok h
  obtain ⟨rewards, q1, q2, q3, q4⟩ := swap_reward_growth s.pool s.ticks s.positions arrays amount limit isInput aToB s.now SWAP_FUEL s.af u
    g.ts hseq inv.liq (tickFacts_of s inv g) g.tp g.liqU g.fee hamt g.af w.ticks w.glob hsw
  rw [updateAfterSwap_eq]
  subst q2
  exact ⟨{ ticks := q3, glob := rewards_next_lt _ _ _ w.glob q1 }, q1, q4⟩

theorem set_wf (rewards : List RewardInfo) (h : ∀ r ∈ rewards, r.growth < TWO128) (i : Nat) (v : RewardInfo)
    (hv : v.growth < TWO128) : ∀ r ∈ rewards.set i v, r.growth < TWO128 := by
  intro r hr
  rcases List.mem_or_eq_of_mem_set hr with a | a
  · exact h r a
  · rw [a]; exact hv

theorem wfR_of_same (s st : HistState) (w : WfR s) (e1 : st.ticks = s.ticks) (e2 : ∀ r ∈ st.pool.rewards, r.growth < TWO128) : WfR st :=
  { ticks := by rw [e1]; exact w.ticks, glob := e2 }

theorem reward_wfR (s : HistState) (i e t : Nat) (w : WfR s) : WfR (histReward s i e t).1 := by
  rcases histReward_cases s i e t with h | ⟨_, r1, hr1, h⟩
  · rw [h]; exact w
  · have h1 : ∀ r ∈ r1, r.growth < TWO128 := by
      rcases hr1 with ⟨_, rfl⟩ | ⟨_, rfl⟩
      · exact w.glob
      · exact set_wf _ w.glob _ _ (reward_getD_lt _ w.glob i)
    rcases h with h | ⟨next, hn, h⟩
    · rw [h]; exact wfR_of_same s _ w rfl h1
    · rw [h]
      have hn' := rewards_next_lt _ _ _ h1 hn
      exact wfR_of_same s _ w rfl (set_wf _ hn' _ _ (reward_getD_lt _ hn' i))

theorem wfR_quiet (s s' : HistState) (w : WfR s) (q : Quiet s s') : WfR s' := by
  refine wfR_of_same s s' w q.ticks ?_
  rcases q.rewards with h | h
  · rw [h]; exact w.glob
  · exact rewards_next_lt _ _ _ w.glob h

theorem step_keeps_wfR (s s' : HistState) (op : HistOp) (outs : List Nat) (inv : Inv s) (g : Geo ts0 s) (w : WfR s)
    (hop : OpOK ts0 op) (h : histStep s op = .ok (s', outs)) : WfR s' := by
  rcases histStep_cases h with ⟨amount, limit, isInput, aToB, arrays, rfl⟩ | ⟨id, a, p, rfl⟩ | q
  · unfold OpOK at hop
    rw [← g.spacing] at hop
    exact (swap_step_reward s s' amount limit isInput aToB arrays outs inv g w hop.1 hop.2 h).1
  · exact wfR_modify s s' id a p outs w h
  · exact wfR_quiet s s' w q

theorem apply_keeps_wfR (s : HistState) (op : HistOp) (inv : Inv s) (g : Geo ts0 s) (w : WfR s) (hop : OpOK ts0 op) :
    WfR (histApply s op) :=
  histApply_ind WfR s op w (fun i e t _ => reward_wfR s i e t w) (fun s' outs h => step_keeps_wfR s s' op outs inv g w hop h)

/-- **C11 over histories**: after ANY history of a pool started empty, ANY further swap accrues each
    initialized reward once, at its start (`nextRewardInfos` — C11.accrual_spec), and its crossings
    move no reward between ranges: the reward growth inside every liquidity-bearing range, read
    against the accrued global growth, is the same after the swap as before it. -/
theorem history_reward_growth (p : PoolD) (now : Nat) (af : Option AfInfo) (ops : List HistOp)
    (inv0 : Inv { pool := p, now := now, af := af }) (g0 : Geo ts0 { pool := p, now := now, af := af })
    (hR : ∀ r ∈ p.rewards, r.growth < TWO128) (hops : ∀ op ∈ ops, OpOK ts0 op)
    (amount limit : Nat) (isInput aToB : Bool) (arrays : List Int) (s' : HistState) (outs : List Nat)
    (hseq : SeqOK arrays ts0 aToB) (hamt : amount ≤ U64_MAX)
    (h : histStep (ops.foldl histApply { pool := p, now := now, af := af }) (.swap amount limit isInput aToB arrays) = .ok (s', outs)) :
    let s := ops.foldl histApply { pool := p, now := now, af := af }
    nextRewardInfos s.pool s.now = .ok s'.pool.rewards ∧
    ∀ i, i < 3 → (s'.pool.rewards.getD i {}).initialized = true → ∀ lo hi, lo < hi → Bound s.positions lo → Bound s.positions hi →
      C07.insideInit s'.pool.tick lo (ro i (s'.ticks.get lo)) hi (ro i (s'.ticks.get hi)) (s'.pool.rewards.getD i {}).growth =
        C07.insideInit s.pool.tick lo (ro i (s.ticks.get lo)) hi (ro i (s.ticks.get hi)) (s'.pool.rewards.getD i {}).growth := by
  intro s
  obtain ⟨i1, g1, w1⟩ := reach_with WfR (fun s s' op outs => step_keeps_wfR s s' op outs) reward_wfR ops _ inv0 g0
    (wfR_init p now af hR) hops
  have hseq' : SeqOK arrays s.pool.ts aToB := by rw [g1.spacing]; exact hseq
  obtain ⟨_, q1, q2⟩ := swap_step_reward s s' amount limit isInput aToB arrays outs i1 g1 w1 hseq' hamt h
  exact ⟨q1, q2⟩

end WP.Reach
