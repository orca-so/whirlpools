import WP.Props.GrowthPath
import WP.Props.C11
/-
  C11 along the whole swap: a swap accrues each initialized reward ONCE, at its start, for the time
  since the last update and for the liquidity that was in range then; after that, however many
  ticks it crosses, the reward growth INSIDE every liquidity-bearing range stays what it was —
  crossing (flipping the reward-growth-outside values against the reward's global growth) moves no
  reward between ranges.
-/
namespace WP.Growth
open WP WP.Gen WP.C05 WP.C10 WP.Path WP.C07

def ro (i : Nat) (t : TickData) : Nat := t.rgo.getD i 0

theorem range3_getD {α : Type} (f : Nat → α) (d : α) (i : Nat) (hi : i < 3) :
    ((List.range 3).map f).getD i d = f i := by
  match i, hi with
  | 0, _ => rfl
  | 1, _ => rfl
  | 2, _ => rfl

theorem ro_cross (i : Nat) (hi : i < 3) (t : TickData) (ga gb : Nat) (rw : List RewardInfo) :
    ro i (nextTickCrossUpdate t ga gb rw) =
      if !(rw.getD i {}).initialized then ro i t else wsub (rw.getD i {}).growth (ro i t) := by
  unfold nextTickCrossUpdate ro
  simp only []
  rw [range3_getD _ 0 i hi]

def RewardsWF (ticks : TickMap) : Prop := ∀ t i, i < 3 → ro i (ticks.get t) < TWO128

theorem rewardsWF_cross (ticks : TickMap) (wf : RewardsWF ticks) (nti : Int) (ga gb : Nat) (rw : List RewardInfo) :
    RewardsWF (ticks.set nti (nextTickCrossUpdate (ticks.get nti) ga gb rw)) := by
  intro t i hi
  rw [C05.tick_get_set]
  by_cases e : t = nti
  · rw [if_pos e, ro_cross i hi]
    split
    · exact wf nti i hi
    · exact wsub_lt _ _
  · rw [if_neg e]; exact wf t i hi

structure RewardInv (c : SwapCtx) (ps : List (Nat × PositionD)) (s0 s : SwapSt) : Prop where
  wf : RewardsWF s.ticks
  same : ∀ i, i < 3 → (c.rewards.getD i {}).initialized = true → ∀ lo hi, lo < hi → Bound ps lo → Bound ps hi →
    insideInit s.tick lo (ro i (s.ticks.get lo)) hi (ro i (s.ticks.get hi)) (c.rewards.getD i {}).growth =
      insideInit s0.tick lo (ro i (s0.ticks.get lo)) hi (ro i (s0.ticks.get hi)) (c.rewards.getD i {}).growth

theorem step_reward (c : SwapCtx) (ps : List (Nat × PositionD)) (p0 : Nat) (s0 s s' : SwapSt) (nai : Nat) (nti : Int)
    (hG : ∀ i, (c.rewards.getD i {}).growth < TWO128)
    (P : Path c ps p0 s) (_A : Aim c s nai nti) (sh : Shape c s s' nti) (_P' : Path c ps p0 s')
    (q : RewardInv c ps s0 s) : RewardInv c ps s0 s' := by
  exact
    { wf := by
        rcases sh.2 with ⟨_, b, _⟩ | ⟨h2, _⟩
        · rcases b with ⟨_, b2⟩ | ⟨_, b2⟩
          · rw [b2]; exact rewardsWF_cross _ q.wf _ _ _ _
          · rw [b2]; exact q.wf
        · rw [h2]; exact q.wf,
      same := by
        intro i hi hinit lo hi' hlh bl bh
        rw [← q.same i hi hinit lo hi' hlh bl bh]
        exact move_inside_shape c ps s s' nti lo hi' (ro i) (c.rewards.getD i {}).growth P.tf (fun t => q.wf t i hi) (hG i)
          hlh bl bh sh (by rw [ro_cross i hi, hinit, Bool.not_true, if_neg Bool.false_ne_true]) }

theorem rewards_next_lt (p : PoolD) (now : Nat) (rewards : List RewardInfo) (hp : ∀ r ∈ p.rewards, r.growth < TWO128)
    (h : nextRewardInfos p now = .ok rewards) : ∀ r ∈ rewards, r.growth < TWO128 := by
  obtain ⟨_, rfl | ⟨_, rfl⟩⟩ := C11.nextRewardInfos_inv h
  · exact hp
  · intro r hr
    obtain ⟨r0, hr0, rfl⟩ := List.mem_map.mp hr
    split
    · exact C07.wadd_lt _ _
    · exact hp r0 hr0

theorem reward_getD_lt (rewards : List RewardInfo) (h : ∀ r ∈ rewards, r.growth < TWO128) (i : Nat) :
    (rewards.getD i {}).growth < TWO128 := by
  unfold List.getD
  cases hget : rewards[i]? with
  | none => exact two128_pos
  | some r => exact h r (List.mem_of_getElem? hget)

/-- **C11 for a whole swap**: with `rewards` the reward infos accrued at the start of the swap
    (`nextRewardInfos`, C11.accrual_spec: each initialized reward advanced by ⌊dt·emissions/L⌋),
    the pool ends with exactly those infos, and for every initialized reward and every range bounded
    by liquidity-bearing ticks the reward growth inside the range is the same after the swap as
    before it (both read against the accrued global growth): crossings move no reward. -/
theorem swap_reward_growth (p : PoolD) (ticks : TickMap) (ps : List (Nat × PositionD)) (arrays : List Int) (amount limit : Nat)
    (isInput aToB : Bool) (now fuel : Nat) (af : Option AfInfo) (u : PostSwap)
    (hts : 0 < p.ts) (hseq : SeqOK arrays p.ts aToB)
    (hliq : (p.liq : Int) = sumBy (inRangeLiq p.tick) ps) (tf : TickFacts ticks ps p.ts) (tp : TP p.tick p.price)
    (hL : p.liq ≤ U128_MAX) (hfee : p.feeRate ≤ FEE_RATE_HARD_LIMIT) (hamt : amount ≤ U64_MAX)
    (haf : ∀ info, af = some info → InfoOK info)
    (wf : RewardsWF ticks) (hGp : ∀ r ∈ p.rewards, r.growth < TWO128)
    (h : swap p ticks arrays amount limit isInput aToB now af fuel = .ok u) :
    ∃ rewards, nextRewardInfos p now = .ok rewards ∧ u.rewards = rewards ∧ RewardsWF u.ticks ∧
      ∀ i, i < 3 → (rewards.getD i {}).initialized = true → ∀ lo hi, lo < hi → Bound ps lo → Bound ps hi →
        insideInit u.tick lo (ro i (u.ticks.get lo)) hi (ro i (u.ticks.get hi)) (rewards.getD i {}).growth =
          insideInit p.tick lo (ro i (ticks.get lo)) hi (ro i (ticks.get hi)) (rewards.getD i {}).growth := by
  obtain ⟨rewards, fm, s, ok, P0, hloop, hfin, hrw⟩ :=
    swap_setup p ticks ps arrays amount limit isInput aToB now fuel af u hts hseq hliq tf tp hL hfee hamt haf h
  have hG : ∀ i, ((swapCtxOf p arrays limit isInput aToB rewards).rewards.getD i {}).growth < TWO128 :=
    reward_getD_lt rewards (rewards_next_lt p now rewards hGp hrw)
  have q0 : RewardInv (swapCtxOf p arrays limit isInput aToB rewards) ps (swapInit p ticks amount aToB fm)
      (swapInit p ticks amount aToB fm) := { wf := wf, same := fun _ _ _ _ _ _ _ _ => rfl }
  obtain ⟨_, inv⟩ := loop_path_inv _ ps p.price ok
    (fun st => RewardInv (swapCtxOf p arrays limit isInput aToB rewards) ps (swapInit p ticks amount aToB fm) st)
    (fun a b nai nti Pa A sh Pb q => step_reward _ ps p.price _ a b nai nti hG Pa A sh Pb q)
    fuel _ none s P0 q0 (fun _ _ _ _ he => by cases he) hloop
  obtain ⟨_, _, _, rfl⟩ := swapFinish_ok.mp hfin
  exact ⟨rewards, hrw, rfl, inv.wf, inv.same⟩

end WP.Growth
