import WP.Props.C20
import WP.Props.PathBase
/-
  C20, liquidity quotes: the SDK's `try_get_token_estimates_from_liquidity` splits the three cases by PRICE
  (`price ≤ sp lower`, `price ≥ sp upper`), the program's `calculate_liquidity_token_deltas` by the current TICK INDEX
  (`tick < lower`, `tick < upper`).  On every pool whose tick index is consistent with its price (`TP`: C09 / C05 at
  every reachable state) the two return the same pair of token amounts, and the SDK fails exactly where the program
  fails — including the boundary states where the price sits exactly on a range bound and the tick index is the
  bound or one below it.
-/
set_option linter.unusedSimpArgs false
namespace WP.SdkLiq
open WP WP.Gen WP.Path

theorem deltaA_same (p L : Nat) (up : Bool) (hp : p ≠ 0) : getAmountDeltaA p p L up = .ok 0 := by
  unfold getAmountDeltaA tryGetAmountDeltaA unwrapDelta incOrder
  have h1 : ¬ p > p := by omega
  have hz : ¬ (0 : Nat) ≥ TWO128 * TWO64 := by decide +kernel
  have hpp : ¬ p * p = 0 := by
    intro c; rcases Nat.mul_eq_zero.mp c with x | x <;> exact hp x
  simp only [if_neg h1, Nat.sub_self, Nat.mul_zero, Nat.zero_mul, if_neg hz, if_neg hpp, Nat.zero_div, Nat.zero_mod,
    Nat.lt_irrefl, decide_false, Bool.and_false, Bool.false_eq_true, if_false]
  have a : ¬ (0 : Nat) > U128_MAX := by omega
  have b : ¬ (0 : Nat) > U64_MAX := by omega
  rw [if_neg a, if_neg b]

theorem deltaB_same (p L : Nat) (up : Bool) : getAmountDeltaB p p L up = .ok 0 := by
  unfold getAmountDeltaB tryGetAmountDeltaB unwrapDelta incOrder
  have h1 : ¬ p > p := by omega
  simp only [if_neg h1, Nat.sub_self, decide_true, Bool.or_true, if_true]

/-- both sides pair two amounts this way; a one-sided case is the pair with `.ok 0` -/
def bind2 (x y : R Nat) : R (Nat × Nat) :=
  match x with
  | .error e => .error e
  | .ok a => match y with
    | .error e => .error e
    | .ok b => .ok (a, b)

theorem toOption_bind2 (x y x' y' : R Nat) : x.toOption = x'.toOption → y.toOption = y'.toOption →
    (bind2 x y).toOption = (bind2 x' y').toOption := by
  intro hx hy
  unfold bind2
  cases x <;> cases x' <;> cases y <;> cases y' <;> simp [Except.toOption] at hx hy ⊢ <;> simp [hx, hy]

/-- **C20, token amounts for liquidity.**  For a position `[lower, upper)` inside the tick bounds and a pool whose tick
    index and price are consistent, the SDK's estimate for `liq > 0` (rounded up for a deposit, down for a
    withdrawal) is the program's pair of token deltas, and it is an error exactly when the program's is. -/
theorem sdk_estimates_eq (curTick : Int) (price liq : Nat) (lower upper : Int) (up : Bool)
    (tp : TP curTick price) (hlu : lower < upper) (hlo : MIN_TICK_INDEX ≤ lower) (hhi : upper ≤ MAX_TICK_INDEX)
    (hliq : 0 < liq) (hL : liq ≤ U128_MAX) :
    (sdkTokenEstimates liq price lower upper up).toOption =
      (calculateLiquidityTokenDeltas curTick price lower upper (if up then (liq : Int) else -(liq : Int))).toOption := by
  have hmaxle := C02.maxPrice_le_u128
  have hpb := TP_price_bounds _ _ tp
  have hplb := sp_in_bounds lower hlo (by omega)
  have hpub := sp_in_bounds upper (by omega) hhi
  have hlt : sp lower < sp upper := C09.sp_lt lower upper hlo hlu hhi
  have hpU : price ≤ U128_MAX := by omega
  have hplU : sp lower ≤ U128_MAX := by omega
  have hpuU : sp upper ≤ U128_MAX := by omega
  have hmin : MIN_SQRT_PRICE_X64 = 4295048016 := rfl
  have hpl0 : sp lower ≠ 0 := by omega
  have hpu0 : sp upper ≠ 0 := by omega
  have hdz : ¬ (if up then (liq : Int) else -(liq : Int)) = 0 := by cases up <;> simp <;> omega
  have hnat : (if up then (liq : Int) else -(liq : Int)).natAbs = liq := by cases up <;> simp
  have hdec : decide ((if up then (liq : Int) else -(liq : Int)) > 0) = up := by cases up <;> simp <;> omega
  unfold sdkTokenEstimates calculateLiquidityTokenDeltas
  simp only [if_neg hdz, hnat, hdec, if_neg (by omega : ¬ liq = 0), if_neg (by omega : ¬ lower = upper)]
  have onlyA := toOption_bind2 _ (.ok 0) _ (.ok 0) (C20.sdk_delta_a_eq (sp lower) (sp upper) liq up hplU hpuU hL) rfl
  have onlyB := toOption_bind2 (.ok 0) _ (.ok 0) _ rfl (C20.sdk_delta_b_eq (sp lower) (sp upper) liq up)
  by_cases c1 : curTick < lower
  · -- below the range: the price is at or below the lower bound's price
    rw [if_pos c1, if_pos (TP_le_of_lt curTick lower price tp (by omega) c1)]
    exact onlyA
  · rw [if_neg c1]
    have hpge : sp lower ≤ price := TP_le_of_le curTick lower price tp hlo (by omega)
    by_cases c2 : curTick < upper
    · rw [if_pos c2]
      have hpleu : price ≤ sp upper := TP_le_of_lt curTick upper price tp hhi c2
      by_cases c3 : price ≤ sp lower
      · -- exactly on the lower bound: B(lower, price) = 0 and A(price, upper) = A(lower, upper)
        rw [if_pos c3, show price = sp lower by omega, deltaB_same]
        exact onlyA
      · rw [if_neg c3]
        by_cases c4 : price ≥ sp upper
        · -- exactly on the upper bound: A(price, upper) = 0 and B(lower, price) = B(lower, upper)
          rw [if_pos c4, show price = sp upper by omega, deltaA_same _ _ _ hpu0]
          exact onlyB
        · rw [if_neg c4]
          exact toOption_bind2 _ _ _ _ (C20.sdk_delta_a_eq price (sp upper) liq up hpU hpuU hL) (C20.sdk_delta_b_eq (sp lower) price liq up)
    · rw [if_neg c2]
      have hpgeu : sp upper ≤ price := TP_le_of_le curTick upper price tp (by omega) (by omega)
      rw [if_neg (by omega : ¬ price ≤ sp lower), if_pos hpgeu]
      exact onlyB

/-- the boundary states are real inputs: price exactly on the upper bound with the tick index one below it (after an
    a→b crossing) and on it; an in-range withdrawal -/
example : sdkTokenEstimates 1000000000 (sp 128) (-128) 128 true = .ok (0, 12799448) ∧
    calculateLiquidityTokenDeltas 127 (sp 128) (-128) 128 1000000000 = .ok (0, 12799448) ∧
    calculateLiquidityTokenDeltas 128 (sp 128) (-128) 128 1000000000 = .ok (0, 12799448) ∧
    sdkTokenEstimates 1000000000 18446744073709551616 (-128) 128 false = .ok (6379245, 6379245) ∧
    calculateLiquidityTokenDeltas 0 18446744073709551616 (-128) 128 (-1000000000) = .ok (6379245, 6379245) := by
  decide +kernel

end WP.SdkLiq
