import WP.Model.SdkSwap
import WP.Props.C10
/-
  C20, tick search: the SDK's `prev_initialized_tick` / `next_initialized_tick` walk the grid one
  initializable tick at a time over the whole sequence; the program's search scans array by array.  Both are
  characterised the same way: the result `nti` is the nearest grid tick in trade direction that is initialized,
  or the end of the window.  These lemmas derive the SDK's answer from that characterisation.
-/
namespace WP.SdkSearch
open WP WP.Gen WP.C10

/-- is `t` a tick the SDK hands out as initialized: on the grid and initialized in the map -/
def gridInit (m : TickMap) (ts : Nat) (t : Int) : Bool := initAt m t && decide (t % (ts : Int) = 0)

/-- what the SDK's search returns for the next tick `nti` -/
def answer (m : TickMap) (ts : Nat) (nti : Int) : Option TickData × Int :=
  (if gridInit m ts nti then some (m.get nti) else none, nti)

theorem gridInit_iff {m : TickMap} {ts : Nat} {t : Int} :
    gridInit m ts t = true ↔ (m.get t).initialized = true ∧ t % (ts : Int) = 0 := by
  unfold gridInit initAt
  rw [Bool.and_eq_true, decide_eq_true_eq]

theorem answer_hit {m : TickMap} {ts : Nat} {t : Int} (hi : (m.get t).initialized = true) (hg : t % (ts : Int) = 0) :
    (some (m.get t), t) = answer m ts t := by
  unfold answer
  rw [gridInit_iff.mpr ⟨hi, hg⟩]; rfl

/-- the walk left the window at its end `e` without finding an initialized grid tick -/
theorem answer_stop {m : TickMap} {ts : Nat} {nti e : Int} (hk : gridInit m ts nti = true ∨ nti = e)
    (hn : ¬ gridInit m ts nti = true) : (none, e) = answer m ts nti := by
  unfold answer
  rcases hk with h | h
  · exact absurd h hn
  · rw [if_neg hn, h]

theorem tmod_zero_iff (x : Int) (ts : Nat) : Int.tmod x ts = 0 ↔ x % (ts : Int) = 0 :=
  ⟨fun h => Int.emod_eq_zero_of_dvd (Int.dvd_of_tmod_eq_zero h), fun h => Int.tmod_eq_zero_of_dvd (Int.dvd_of_emod_eq_zero h)⟩

theorem sdkTick_ok (m : TickMap) (lo hi : Int) (ts : Nat) (x : Int) (h1 : lo ≤ x) (h2 : x ≤ hi)
    (h3 : x % (ts : Int) = 0) : sdkTick m lo hi ts x = .ok (m.get x) := by
  unfold sdkTick
  rw [if_neg (by simp; omega), if_neg (fun c => c ((tmod_zero_iff x ts).mpr h3))]

/-- one visit of either walk, after the read: the grid tick `x` is `nti` or uninitialized, so a hit returns the
answer and a miss leaves an initialized `nti` at another tick -/
theorem visit {m : TickMap} {ts : Nat} {x nti : Int} {rest : R (Option TickData × Int)} (hg : x % (ts : Int) = 0)
    (hno : x ≠ nti → initAt m x = false)
    (hrest : (gridInit m ts nti = true → nti ≠ x) → rest = .ok (answer m ts nti)) :
    (if (m.get x).initialized = true then .ok (some (m.get x), x) else rest) = .ok (answer m ts nti) := by
  by_cases hi : (m.get x).initialized = true
  · have heq : x = nti := Decidable.byContradiction fun c => by
      have := hno c
      unfold initAt at this; rw [hi] at this; cases this
    subst heq
    rw [if_pos hi, answer_hit hi hg]
  · rw [if_neg hi]
    exact hrest fun hgi c => hi (c ▸ (gridInit_iff.mp hgi).1)

/-- a→b walk: from the grid tick `prev` down to `nti` -/
theorem prevLoop_spec (m : TickMap) (lo hi : Int) (ts : Nat) (hts : 0 < ts) (s nti : Int)
    (hlo : lo ≤ nti) (hs : s ≤ hi)
    (hno : ∀ x, nti < x → x ≤ s → x % (ts : Int) = 0 → initAt m x = false)
    (hk : gridInit m ts nti = true ∨ nti = lo) :
    ∀ (fuel : Nat) (prev : Int), prev % (ts : Int) = 0 → prev ≤ s → (gridInit m ts nti = true → nti ≤ prev) →
      prev < lo + (fuel : Int) * ts →
      sdkPrevLoop m lo hi ts (fuel + 1) prev = .ok (answer m ts nti) := by
  have htsI : (0 : Int) < (ts : Int) := by omega
  -- below the window the walk stops: an initialized `nti` would lie between `lo` and `prev`
  have stop : ∀ (f : Nat) (prev : Int), (gridInit m ts nti = true → nti ≤ prev) → prev < lo →
      sdkPrevLoop m lo hi ts (f + 1) prev = .ok (answer m ts nti) := by
    intro f prev hinv hlt
    unfold sdkPrevLoop
    rw [if_pos hlt, answer_stop hk (fun hg => by have := hinv hg; omega)]
  intro fuel
  induction fuel with
  | zero => intro prev _ _ hinv hb; exact stop 0 prev hinv (by simpa using hb)
  | succ fuel ih =>
    intro prev hgrid hps hinv hb
    by_cases hlt : prev < lo
    · exact stop _ prev hinv hlt
    · -- inside the window `nti` has not been passed, whichever way it was chosen
      have hle : nti ≤ prev := hk.elim hinv (fun h => by omega)
      unfold sdkPrevLoop
      rw [if_neg hlt, sdkTick_ok m lo hi ts prev (by omega) (by omega) hgrid]
      simp only []
      rw [if_pos hgrid]
      apply visit hgrid (fun hne => hno prev (by omega) hps hgrid)
      intro hne
      apply ih (prev - ts)
      · rw [Int.sub_emod, hgrid]; simp
      · omega
      · -- nti is a grid tick below prev, so at least one spacing below
        intro hg
        have := mult_gap (ts : Int) nti prev htsI (Int.dvd_of_emod_eq_zero (gridInit_iff.mp hg).2)
          (Int.dvd_of_emod_eq_zero hgrid) (by have := hne hg; omega)
        omega
      · rw [Int.natCast_add, Int.add_mul] at hb
        omega

/-- `prev_initialized_tick` from tick `s` -/
theorem prevInit_spec (m : TickMap) (lo hi : Int) (ts : Nat) (hts : 0 < ts) (s nti : Int)
    (hlo : lo ≤ nti) (hns : nti ≤ s) (hs : s ≤ hi)
    (hno : ∀ x, nti < x → x ≤ s → x % (ts : Int) = 0 → initAt m x = false)
    (hk : gridInit m ts nti = true ∨ nti = lo) (fuel : Nat) (hf : s < lo + (fuel : Int) * ts) :
    sdkPrevInit m lo hi ts (fuel + 1) s = .ok (answer m ts nti) := by
  have htsI : (0 : Int) < (ts : Int) := by omega
  unfold sdkPrevInit
  rw [if_neg (by omega), if_neg (by omega)]
  have hfloor : s / (ts : Int) * ts ≤ s := Int.ediv_mul_le s (by omega)
  apply prevLoop_spec m lo hi ts hts s nti hlo hs hno hk fuel
  · exact Int.mul_emod_left _ _
  · exact hfloor
  · -- nti is a grid tick ≤ s, so it is ≤ floor(s)
    intro hg
    obtain ⟨q, hq⟩ := Int.dvd_of_emod_eq_zero (gridInit_iff.mp hg).2
    have hqs : q ≤ s / (ts : Int) := by
      rw [Int.le_ediv_iff_mul_le htsI]; rw [hq, Int.mul_comm] at hns; exact hns
    have : q * (ts : Int) ≤ s / (ts : Int) * ts := Int.mul_le_mul_of_nonneg_right hqs (by omega)
    rw [hq, Int.mul_comm]; exact this
  · omega

/-- b→a walk: from tick `cur`, whose next grid tick is `nx`, up to `nti` -/
theorem nextLoop_spec (m : TickMap) (lo hi : Int) (ts : Nat) (hts : 0 < ts) (s nti : Int)
    (hhi : nti ≤ hi)
    (hlow : ∀ x, s < x → x % (ts : Int) = 0 → lo ≤ x)
    (hno : ∀ x, s < x → x < nti → x % (ts : Int) = 0 → initAt m x = false)
    (hk : gridInit m ts nti = true ∨ nti = hi) :
    ∀ (fuel : Nat) (cur nx : Int), cur - cur % (ts : Int) + ts = nx → s < nx → (gridInit m ts nti = true → nx ≤ nti) →
      hi + ts - nx < (fuel : Int) * ts →
      sdkNextLoop m lo hi ts (fuel + 1) cur = .ok (answer m ts nti) := by
  have htsI : (0 : Int) < (ts : Int) := by omega
  -- above the window the walk stops: an initialized `nti` would lie between `nx` and `hi`
  have stop : ∀ (f : Nat) (cur nx : Int), cur - cur % (ts : Int) + ts = nx → (gridInit m ts nti = true → nx ≤ nti) →
      nx > hi → sdkNextLoop m lo hi ts (f + 1) cur = .ok (answer m ts nti) := by
    intro f cur nx hnx hinv hgt
    unfold sdkNextLoop
    simp only []
    rw [hnx, if_pos hgt, answer_stop hk (fun hg => by have := hinv hg; omega)]
  intro fuel
  induction fuel with
  | zero => intro cur nx hnx _ hinv hb; exact stop 0 cur nx hnx hinv (by simp at hb; omega)
  | succ fuel ih =>
    intro cur nx hnx hsn hinv hb
    by_cases hgt : nx > hi
    · exact stop _ cur nx hnx hinv hgt
    · have hgrid : nx % (ts : Int) = 0 :=
        hnx ▸ Int.emod_eq_zero_of_dvd (Int.dvd_add Int.dvd_self_sub_emod (Int.dvd_refl _))
      have hle : nx ≤ nti := hk.elim hinv (fun h => by omega)
      unfold sdkNextLoop
      simp only []
      rw [hnx, if_neg hgt, sdkTick_ok m lo hi ts nx (hlow nx hsn hgrid) (by omega) hgrid]
      simp only []
      apply visit hgrid (fun hne => hno nx hsn (by omega) hgrid)
      intro hne
      apply ih nx (nx + ts) (by rw [hgrid]; omega) (by omega)
      · -- nti is a grid tick above nx, so at least one spacing above
        intro hg
        exact mult_gap (ts : Int) nx nti htsI (Int.dvd_of_emod_eq_zero hgrid)
          (Int.dvd_of_emod_eq_zero (gridInit_iff.mp hg).2) (by have := hne hg; omega)
      · rw [Int.natCast_add, Int.add_mul] at hb
        omega

/-- `next_initialized_tick` from tick `s` -/
theorem nextInit_spec (m : TickMap) (lo hi : Int) (ts : Nat) (hts : 0 < ts) (s nti : Int)
    (hsn : s < nti) (hhi : nti ≤ hi)
    (hlow : ∀ x, s < x → x % (ts : Int) = 0 → lo ≤ x)
    (hno : ∀ x, s < x → x < nti → x % (ts : Int) = 0 → initAt m x = false)
    (hk : gridInit m ts nti = true ∨ nti = hi) (fuel : Nat) (hf : hi - (s - s % (ts : Int)) < (fuel : Int) * ts) :
    sdkNextInit m lo hi ts (fuel + 1) s = .ok (answer m ts nti) := by
  have htsI : (0 : Int) < (ts : Int) := by omega
  have hm := Int.emod_nonneg s (by omega : (ts : Int) ≠ 0)
  have hm2 := Int.emod_lt_of_pos s htsI
  unfold sdkNextInit
  rw [if_neg (by omega), if_neg (by omega)]
  apply nextLoop_spec m lo hi ts hts s nti hhi hlow hno hk fuel s _ rfl (by omega)
  · -- nti is a grid tick above s, so it is at or above the next grid tick
    intro hg
    exact mult_gap (ts : Int) (s - s % (ts : Int)) nti htsI Int.dvd_self_sub_emod
      (Int.dvd_of_emod_eq_zero (gridInit_iff.mp hg).2) (by omega)
  · omega

end WP.SdkSearch
