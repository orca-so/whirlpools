import WP.Model.SdkSwap
import WP.Props.C20
import WP.Props.C02
import WP.Lemmas.Except
/-
  C20, swap-step level: the SDK's `compute_swap_step` (model `sdkSwapStep`) returns exactly the step the
  program's `compute_swap` returns, whenever the program returns one whose input plus fee fits a u64 (which the
  amount bookkeeping of the program's swap loop requires of every step it accepts).
-/
namespace WP.SdkStep
open WP WP.Gen

def toOpt : AmountDelta → Option Nat
  | .valid v => some v
  | .exceedsMax _ => none

theorem toOption_ok {α} (x : R α) (v : α) (h : x.toOption = some v) : x = .ok v := by
  cases x with
  | error e => simp [Except.toOption] at h
  | ok a => simp [Except.toOption] at h; rw [h]

theorem toOpt_classify (r : Nat) (e : Err) : toOpt (C02.classify r e) = if r > U64_MAX then none else some r := by
  unfold C02.classify
  split <;> rfl

theorem deltaAX_of_try (p0 p1 liq : Nat) (up : Bool) (d : AmountDelta)
    (h : tryGetAmountDeltaA p0 p1 liq up = .ok d) : sdkDeltaAX p0 p1 liq up = .ok (toOpt d) := by
  rw [C02.tryDeltaA_eq] at h
  obtain ⟨hs, h⟩ := ok_of_ite h
  obtain ⟨hd, h⟩ := ok_of_ite h
  cases h
  rw [C20.sdkDeltaAX_eq, if_neg hs, if_neg hd, toOpt_classify]

theorem deltaBX_of_try (p0 p1 liq : Nat) (up : Bool) (d : AmountDelta)
    (h : tryGetAmountDeltaB p0 p1 liq up = .ok d) : sdkDeltaBX p0 p1 liq up = .ok (toOpt d) := by
  rw [C02.tryDeltaB_eq] at h
  cases h
  rw [C20.sdkDeltaBX_eq, toOpt_classify]

/-- `try_mul_div` on inputs that neither overflow nor divide by zero -/
theorem mulDiv_spec (a p d : Nat) (up : Bool) (hd : d ≠ 0) (hprod : a * p ≤ U128_MAX)
    (hres : (if up then cdiv (a * p) d else a * p / d) ≤ U64_MAX) :
    sdkMulDiv a p d up = .ok (if up then cdiv (a * p) d else a * p / d) := by
  unfold sdkMulDiv
  simp only []
  rw [roundUpIf_ne_eq _ _ up (by omega)]
  by_cases hz : (decide (a = 0) || decide (p = 0)) = true
  · have hp : a * p = 0 := by
      simp only [Bool.or_eq_true, decide_eq_true_eq] at hz
      rcases hz with x | x <;> simp [x]
    rw [if_pos hz, hp, Nat.zero_div, cdiv_zero _ (by omega), ite_self]
  · rw [if_neg hz, if_neg (by omega), if_neg hd, if_neg (by omega)]

/-- the u128 subtraction `FEE_RATE_DENOMINATOR - fee_rate` does not wrap -/
theorem wrap_sub (rate : Nat) (hrate : rate ≤ FEE_RATE_HARD_LIMIT) :
    (FEE_RATE_MUL_VALUE + TWO128 - rate) % TWO128 = FEE_RATE_MUL_VALUE - rate := by
  have hM : FEE_RATE_MUL_VALUE = 1000000 := rfl
  have hH : FEE_RATE_HARD_LIMIT = 100000 := rfl
  have h128 := C02.two128_val
  exact wrapping_sub_eq _ _ _ (by omega) (by omega)

/-- `try_apply_swap_fee` is the program's net budget -/
theorem applyFee_eq (rem rate c : Nat) (hrem : rem ≤ U64_MAX) (hrate : rate ≤ FEE_RATE_HARD_LIMIT)
    (h : amountCalcOf rem rate true = .ok c) : sdkApplyFee rem rate = .ok c := by
  have hM : FEE_RATE_MUL_VALUE = 1000000 := rfl
  have hu128 := C02.u128max_val
  have hu64 := C02.u64max_val
  obtain ⟨hc, hle⟩ := C02.amountCalc_spec rem rate c true hrem h
  rw [if_pos rfl] at hc
  unfold C02.netBudget at hc
  unfold sdkApplyFee
  rw [wrap_sub rate hrate, hM] at *
  have hprod : rem * (1000000 - rate) ≤ 18446744073709551615 * 1000000 := Nat.mul_le_mul (hu64 ▸ hrem) (by omega)
  rw [mulDiv_spec _ _ _ false (by omega) (by omega) (by rw [if_neg (by decide)]; omega), hc]
  rfl

theorem cdiv_split (a r D : Nat) (hD : 0 < D) : cdiv (a * (r + D)) D = cdiv (a * r) D + a := by
  unfold cdiv
  have : a * (r + D) + D - 1 = (a * r + D - 1) + D * a := by
    rw [Nat.mul_add, Nat.mul_comm a D]; omega
  rw [this, Nat.add_mul_div_left _ _ hD]

/-- `try_reverse_apply_swap_fee(x) − x` is the program's fee on `x` -/
theorem reverseFee_eq (a rate : Nat) (ha : a ≤ U64_MAX) (hrate : rate ≤ FEE_RATE_HARD_LIMIT)
    (hsum : a + cdiv (a * rate) (FEE_RATE_MUL_VALUE - rate) ≤ U64_MAX) :
    (match sdkReverseFee a rate with
     | .error e => (Except.error e : R Nat)
     | .ok pre => .ok ((pre + TWO64 - a) % TWO64)) = .ok (cdiv (a * rate) (FEE_RATE_MUL_VALUE - rate)) := by
  have hM : FEE_RATE_MUL_VALUE = 1000000 := rfl
  have hH : FEE_RATE_HARD_LIMIT = 100000 := rfl
  have h64 := C02.two64_val
  have hu128 := C02.u128max_val
  have hu64 := C02.u64max_val
  unfold sdkReverseFee
  rw [wrap_sub rate hrate]
  generalize hD : FEE_RATE_MUL_VALUE - rate = D at *
  have hprod : a * FEE_RATE_MUL_VALUE ≤ 18446744073709551615 * 1000000 := Nat.mul_le_mul (hu64 ▸ ha) (Nat.le_of_eq hM)
  -- the amount before the fee is the amount plus the fee on it
  have hval : cdiv (a * FEE_RATE_MUL_VALUE) D = cdiv (a * rate) D + a := by
    rw [← cdiv_split a rate D (by omega), show rate + D = FEE_RATE_MUL_VALUE by omega]
  rw [mulDiv_spec a FEE_RATE_MUL_VALUE D true (by omega) (by omega) (by rw [if_pos rfl, hval]; omega), if_pos rfl, hval]
  simp only []
  rw [show cdiv (a * rate) D + a + TWO64 - a = cdiv (a * rate) D + TWO64 by omega, Nat.add_mod_right,
    Nat.mod_eq_of_lt (by omega)]

theorem fixedX_of_try (cur tgt L : Nat) (ein dir : Bool) (d : AmountDelta)
    (h : tryGetAmountFixedDelta cur tgt L ein dir = .ok d) : sdkFixedX cur tgt L dir ein = .ok (toOpt d) := by
  unfold tryGetAmountFixedDelta at h
  unfold sdkFixedX
  split at h
  · rw [if_pos ‹_›]; exact deltaAX_of_try _ _ _ _ _ h
  · rw [if_neg ‹_›]; exact deltaBX_of_try _ _ _ _ _ h

theorem unwrapX_of_delta (x : R (Option Nat)) (t : R AmountDelta) (v : Nat)
    (hx : ∀ d, t = .ok d → x = .ok (toOpt d)) (h : unwrapDelta t = .ok v) : unwrapX x = .ok v := by
  rw [hx _ (C02.unwrap_valid t v h)]; rfl

theorem getFixed_eq (cur nx L : Nat) (ein dir : Bool) (f : Nat)
    (h : getAmountFixedDelta cur nx L ein dir = .ok f) : unwrapX (sdkFixedX cur nx L dir ein) = .ok f := by
  rw [C02.getFixed_eq, ← C02.tryFixed_eq] at h
  exact unwrapX_of_delta _ _ _ (fixedX_of_try _ _ _ _ _) h

theorem unfixed_eq (cur nx L : Nat) (ein dir : Bool) (u : Nat)
    (h : getAmountUnfixedDelta cur nx L ein dir = .ok u) : sdkUnfixed cur nx L dir ein = .ok u := by
  unfold getAmountUnfixedDelta at h
  unfold sdkUnfixed
  split at h
  · rw [if_pos (Eq.symm ‹_›)]; exact unwrapX_of_delta _ _ _ (deltaBX_of_try _ _ _ _) h
  · rw [if_neg (fun x => ‹¬ _› x.symm)]; exact unwrapX_of_delta _ _ _ (deltaAX_of_try _ _ _ _) h

theorem next_eq (cur L amt n : Nat) (ein dir : Bool) (hcur : cur ≤ U128_MAX) (hL : L ≤ U128_MAX) (hamt : amt ≤ U64_MAX)
    (hlo : MIN_SQRT_PRICE_X64 ≤ n) (hhi : n ≤ MAX_SQRT_PRICE_X64)
    (h : getNextSqrtPrice cur L amt ein dir = .ok n) : sdkNext cur L amt dir ein = .ok n := by
  unfold getNextSqrtPrice at h
  unfold sdkNext
  by_cases c : ein = dir
  · rw [if_pos c] at h ⊢
    apply toOption_ok
    rw [C20.sdk_next_a_eq cur L amt ein hcur hL hamt, h]; rfl
  · rw [if_neg c] at h ⊢
    exact (C20.sdk_next_b_eq cur L amt ein n (C02.nspB_spec _ _ _ _ _ h).1 hcur hL hamt).2 h hlo hhi

/-- the SDK's match on the initial delta is the program's test `initial ≤ amount_calc` -/
theorem sdkStepNext_toOpt (i : AmountDelta) (cal cur tgt L : Nat) (dir ein : Bool) :
    sdkStepNext (.ok (toOpt i)) cal cur tgt L dir ein = if i.lte cal then .ok tgt else sdkNext cur L cal dir ein := by
  cases i with
  | valid v => simp only [toOpt, sdkStepNext, AmountDelta.lte, decide_eq_true_eq]
  | exceedsMax e => rfl

/-- **C20, one swap step**: on every step the program computes — in-bounds prices, a u64 amount, a fee rate up to the
    hard limit — and whose input plus fee fits a u64 (what the program's own bookkeeping demands next), the SDK's
    `compute_swap_step` returns the same input, output, next price and fee. -/
theorem sdk_step_eq (rem rate L cur tgt : Nat) (ein dir : Bool) (r : SwapStep)
    (wf : C02.WFStep rem rate L cur tgt dir) (h : computeSwap rem rate L cur tgt ein dir = .ok r)
    (hsum : r.amountIn + r.feeAmount ≤ U64_MAX) :
    sdkSwapStep rem rate L cur tgt dir ein = .ok r := by
  obtain ⟨initial, amountCalc, unfixed, fixed, hinit, hcalc, hnext, hunf, hfix, hin, hout, hfee⟩ :=
    C02.computeSwap_inv rem rate L cur tgt ein dir r h
  have hbetween := C02.step_direction rem rate L cur tgt ein dir r wf h
  have hfeeval := C02.step_fee rem rate L cur tgt ein dir r wf h
  have hmaxle := C02.maxPrice_le_u128
  have hcurU : cur ≤ U128_MAX := Nat.le_trans wf.cur_hi hmaxle
  obtain ⟨hnlo, hnhi⟩ : MIN_SQRT_PRICE_X64 ≤ r.nextPrice ∧ r.nextPrice ≤ MAX_SQRT_PRICE_X64 := by
    have h1 := wf.cur_lo; have h2 := wf.cur_hi; have h3 := wf.tgt_lo; have h4 := wf.tgt_hi
    by_cases hd : dir = true
    · rw [if_pos hd] at hbetween; omega
    · rw [if_neg hd] at hbetween; omega
  obtain ⟨hcv, hcle⟩ := C02.amountCalc_spec rem rate amountCalc ein wf.remU hcalc
  have hcalcU : amountCalc ≤ U64_MAX := Nat.le_trans hcle wf.remU
  have e1 : (if ein then sdkApplyFee rem rate else (.ok rem : R Nat)) = .ok amountCalc := by
    cases ein with
    | true => exact applyFee_eq rem rate amountCalc wf.remU wf.rateOk hcalc
    | false =>
      unfold amountCalcOf at hcalc
      simpa using hcalc
  have e0 := fixedX_of_try cur tgt L ein dir initial hinit
  have e2 : sdkStepNext (.ok (toOpt initial)) amountCalc cur tgt L dir ein = .ok r.nextPrice := by
    unfold stepNext at hnext
    rw [sdkStepNext_toOpt]
    by_cases c : initial.lte amountCalc = true
    · rw [if_pos c] at hnext ⊢; exact hnext
    · rw [if_neg c] at hnext ⊢
      exact next_eq cur L amountCalc r.nextPrice ein dir hcurU wf.LU hcalcU hnlo hnhi hnext
  have e3 := unfixed_eq cur r.nextPrice L ein dir unfixed hunf
  have e4 : sdkStepFixed (.ok (toOpt initial)) r.nextPrice cur tgt L dir ein = .ok fixed := by
    unfold stepFixed at hfix
    cases initial with
    | valid v =>
      simp only [AmountDelta.isExceedsMax, Bool.or_false] at hfix
      simp only [toOpt, sdkStepFixed]
      by_cases c : (!(r.nextPrice == tgt)) = true
      · rw [if_pos c] at hfix ⊢; exact getFixed_eq _ _ _ _ _ _ hfix
      · rw [if_neg c] at hfix ⊢; exact hfix
    | exceedsMax e =>
      simp only [AmountDelta.isExceedsMax, Bool.or_true, if_true] at hfix
      simp only [toOpt, sdkStepFixed]
      exact getFixed_eq _ _ _ _ _ _ hfix
  have e5 : sdkStepFee rem r.amountIn rate r.nextPrice tgt ein = .ok r.feeAmount := by
    unfold stepFee at hfee
    unfold sdkStepFee
    by_cases c : (ein && !(r.nextPrice == tgt)) = true
    · rw [if_pos c] at hfee ⊢; exact hfee
    · rw [if_neg c]
      have hne : ¬ (ein = true ∧ r.nextPrice ≠ tgt) := by
        intro x; apply c
        simp [x.1, x.2]
      rw [if_neg hne] at hfeeval
      rw [hfeeval] at hsum ⊢
      exact reverseFee_eq r.amountIn rate (by omega) wf.rateOk hsum
  unfold sdkSwapStep
  simp only [e0, e1, e2, e3, e4]
  rw [← hin, e5]
  simp only []
  cases r with
  | mk ai ao np fa =>
    simp only [] at hout ⊢
    rw [hout]

/-- the hypotheses are met by ordinary steps: an exact-in a→b step that reaches its target and an exact-out b→a
    step that stops short -/
example : computeSwap 1000000 3000 100000000000000000 18446744073709551616 18446744073700000000 true true
      = .ok { amountIn := 51780, amountOut := 51779, nextPrice := 18446744073700000000, feeAmount := 156 } ∧
    sdkSwapStep 1000000 3000 100000000000000000 18446744073709551616 18446744073700000000 true true
      = .ok { amountIn := 51780, amountOut := 51779, nextPrice := 18446744073700000000, feeAmount := 156 } ∧
    computeSwap 1000000 3000 100000000000000000 18446744073709551616 18446744083700000000 false false
      = .ok { amountIn := 1000001, amountOut := 1000000, nextPrice := 18446744073894019057, feeAmount := 3010 } ∧
    sdkSwapStep 1000000 3000 100000000000000000 18446744073709551616 18446744083700000000 false false
      = .ok { amountIn := 1000001, amountOut := 1000000, nextPrice := 18446744073894019057, feeAmount := 3010 } := by
  decide +kernel

end WP.SdkStep
