import WP.Props.SdkStep
import WP.Props.SdkSearch
import WP.Props.SwapPath
import WP.Props.Reach
/-
  C20, whole swap: the SDK's `compute_swap` (model `sdkSwap`: own step function, own tick search over the whole
  sequence, unchecked liquidity arithmetic, wrapping fee sum) returns the token amounts and the total fee of the
  program's `swap` on the same pool, tick map and tick arrays, whenever the program's swap succeeds —
  for every amount, limit, mode, direction, static and adaptive fee, over any aligned consecutive array sequence.

  The proof is a lock-step simulation of the two loops along the invariant `Path` of the program's loop
  (WP/Props/SwapPath.lean): the search results coincide (SdkSearch + C10's interval theorems), each step is the same
  record (SdkStep.sdk_step_eq), crossing changes the liquidity by the same amount because the program's checked
  result is in range, and the tick maps agree on `initialized` / `liquidity_net` because crossing a tick only
  rewrites its outside growths.
-/
set_option linter.unusedSimpArgs false
namespace WP.SdkSim
open WP WP.Gen WP.C05 WP.C10 WP.Path WP.SdkSearch

/-- the SDK reads the tick map as it was before the swap: same flags and net liquidity as the program's evolving map -/
def TickAgree (cur m0 : TickMap) : Prop :=
  ∀ t, (cur.get t).initialized = (m0.get t).initialized ∧ (cur.get t).net = (m0.get t).net

structure Rel (s : SwapSt) (σ : SdkSt) : Prop where
  rem : σ.remaining = s.remaining
  cal : σ.calculated = s.calculated
  price : σ.price = s.price
  tick : σ.tick = s.tick
  liq : σ.liq = s.liq
  fee : σ.fee = s.feeSum
  fm : σ.fm = s.fm

structure CtxRel (c : SwapCtx) (k : SdkCtx) : Prop where
  ts : k.ts = c.ts
  dir : k.aToB = c.aToB
  inp : k.isInput = c.isInput
  lim : k.limit = c.limit

/-- the window of the SDK's sequence against the program's array list -/
structure Win (arrays : List Int) (ts : Nat) (aToB : Bool) (lo hi : Int) (first last : Int) : Prop where
  mem : ∀ (k : Nat) (st : Int), arrays[k]? = some st → first ≤ st ∧ st ≤ last
  lo_eq : lo = max first MIN_TICK_INDEX
  hi_eq : hi = min (last + 88 * (ts : Int) - 1) MAX_TICK_INDEX
  grid : first % (ts : Int) = 0
  endpt : ∀ st, arrays[arrays.length - 1]? = some st → st = (if aToB then first else last)
  span : last + 88 * (ts : Int) ≤ first + (arrays.length : Int) * 88 * ts

theorem initAt_agree (cur m0 : TickMap) (ag : TickAgree cur m0) (x : Int) : initAt m0 x = initAt cur x := by
  unfold initAt; exact (ag x).1.symm

theorem gridInit_of_init {cur m0 : TickMap} {ps : List (Nat × PositionD)} {ts : Nat} (tf : TickFacts cur ps ts)
    (ag : TickAgree cur m0) {t : Int} (hi : initAt cur t = true) : gridInit m0 ts t = true := by
  rw [gridInit_iff, ← (ag t).1]
  exact ⟨hi, (init_grid cur ps ts tf t hi).1⟩

theorem gridInit_of_not_init {cur m0 : TickMap} {ts : Nat} (ag : TickAgree cur m0) {t : Int} (hi : initAt cur t = false) :
    gridInit m0 ts t = false := by
  unfold gridInit
  rw [initAt_agree _ _ ag, hi]; rfl

theorem amounts_sum (isInput : Bool) (rem cal : Nat) (sc : SwapStep) (ra : Nat × Nat) (hrem : rem ≤ U64_MAX)
    (h : stepAmounts isInput rem cal sc = .ok ra) : sc.amountIn + sc.feeAmount ≤ U64_MAX := by
  unfold stepAmounts checkedSub64 checkedAdd64 at h
  cases isInput with
  | true =>
    simp only [if_true] at h
    by_cases c1 : sc.amountIn ≤ rem
    · rw [if_pos c1] at h
      simp only [] at h
      by_cases c2 : sc.feeAmount ≤ rem - sc.amountIn
      · omega
      · rw [if_neg c2] at h; cases h
    · rw [if_neg c1] at h; cases h
  | false =>
    simp only [Bool.false_eq_true, if_false] at h
    by_cases c1 : sc.amountOut ≤ rem
    · rw [if_pos c1] at h
      simp only [] at h
      by_cases c2 : cal + sc.amountIn ≤ U64_MAX
      · rw [if_pos c2] at h
        simp only [] at h
        by_cases c3 : cal + sc.amountIn + sc.feeAmount ≤ U64_MAX
        · omega
        · rw [if_neg c3] at h; cases h
      · rw [if_neg c2] at h; cases h
    · rw [if_neg c1] at h; cases h

/-- `get_next_liquidity` on the crossed tick is the program's checked result -/
theorem nextLiq_eq (liq l : Nat) (net : Int) (aToB : Bool) (hl : liq ≤ U128_MAX)
    (h : addLiquidityDelta liq (if aToB then -net else net) = .ok l) (t : TickData) (ht : t.net = net) :
    sdkNextLiq liq (some t) aToB = l := by
  have h128 := C02.u128_succ
  obtain ⟨e, hle⟩ := addLiq_spec liq l _ h hl
  unfold sdkNextLiq
  simp only [ht]
  -- an addition that stays within a u128, or a subtraction that does not borrow
  cases aToB with
  | true =>
    simp only [if_true] at e ⊢
    by_cases hn : net < 0
    · rw [if_pos hn, Nat.mod_eq_of_lt (by omega)]; omega
    · rw [if_neg hn, wrapping_sub_eq _ _ _ (by omega) (by omega)]; omega
  | false =>
    simp only [Bool.false_eq_true, if_false] at e ⊢
    by_cases hn : net < 0
    · rw [if_pos hn, wrapping_sub_eq _ _ _ (by omega) (by omega)]; omega
    · rw [if_neg hn, Nat.mod_eq_of_lt (by omega)]; omega

theorem nextLiq_none (liq : Nat) (aToB : Bool) (hl : liq ≤ U128_MAX) : sdkNextLiq liq none aToB = liq := by
  have h128 := C02.u128_succ
  unfold sdkNextLiq
  cases aToB <;> simp <;> exact Nat.mod_eq_of_lt (by omega)

theorem agree_cross (cur m0 : TickMap) (nti : Int) (ga gb : Nat) (rw : List RewardInfo) (ag : TickAgree cur m0) :
    TickAgree (cur.set nti (nextTickCrossUpdate (cur.get nti) ga gb rw)) m0 := by
  intro t
  rw [C05.tick_get_set]
  by_cases ht : t = nti
  · rw [if_pos ht]
    obtain ⟨a, _, b⟩ := cross_upd_same (cur.get nti) ga gb rw
    rw [a, b, ← ht]; exact ag t
  · rw [if_neg ht]; exact ag t

/-- **one iteration of the two loops**: same step, same bookkeeping, same liquidity and tick index -/
theorem iter_sim (c : SwapCtx) (k : SdkCtx) (ps : List (Nat × PositionD)) (p0 : Nat) (s s' : SwapSt) (σ : SdkSt)
    (nai : Nat) (nti : Int) (tgt : Nat) (ok : CtxOK c) (ck : CtxRel c k) (P : Path c ps p0 s) (A : Aim c s nai nti)
    (ag : TickAgree s.ticks k.ticks) (R : Rel s σ)
    (htgt : tgt = if c.aToB then max c.limit (sp nti) else min c.limit (sp nti))
    (h : swapStep c s nai nti (sp nti) tgt = .ok s') :
    ∃ σ', sdkIter k σ (answer k.ticks c.ts nti).1 nti (sp nti) tgt = .ok σ' ∧ Rel s' σ' ∧ TickAgree s'.ticks k.ticks := by
  obtain ⟨sc, ra, feeSum, cr, fm', hsc, hra, hfee, hcross, hfm, rfl⟩ := swapStep_ok.mp h
  obtain ⟨hfeeU, rfl⟩ := checkedAdd64_ok.mp hfee
  have wf := (step_wf c ps p0 s nai nti ok P A).1
  rw [← htgt] at wf
  have hsum := amounts_sum c.isInput s.remaining s.calculated sc ra P.remU hra
  have hstep := SdkStep.sdk_step_eq _ _ _ _ _ _ _ sc wf hsc hsum
  have h64 := C02.u64_succ
  have hlt : (if sc.nextPrice = sp nti then (sdkNextLiq s.liq (answer k.ticks c.ts nti).1 c.aToB, if c.aToB then nti - 1 else nti)
              else if sc.nextPrice ≠ s.price then (s.liq, ti sc.nextPrice) else (s.liq, s.tick)) = (cr.liq, cr.tick) ∧
             TickAgree cr.ticks k.ticks := by
    obtain ⟨_, _, ⟨st, hst, l1, l2⟩, _⟩ := A
    rcases stepCross_spec c s sc _ nai nti (sp nti) cr hcross with
      ⟨hp, htick, start, hstart, hcase⟩ | ⟨hp, hq, htick, hliq, hticks⟩ | ⟨hp, hq, htick, hliq, hticks⟩
    · rw [hst] at hstart
      cases hstart
      rw [if_pos hp, htick]
      rcases hcase with ⟨hti, hadd, htk⟩ | ⟨hno2, hl, htk⟩
      · simp only [Bool.and_eq_true] at hti
        have hg : gridInit k.ticks c.ts nti = true := gridInit_of_init P.tf ag hti.2
        unfold answer
        rw [hg]
        simp only [if_true]
        rw [nextLiq_eq s.liq cr.liq (s.ticks.get nti).net c.aToB P.liqU hadd (k.ticks.get nti) (ag nti).2.symm]
        refine ⟨rfl, ?_⟩
        rw [htk]; exact agree_cross _ _ _ _ _ _ ag
      · have hni := not_init_of_not_crossed c ps s st nti ok P.tf (ok.aligned nai st hst) l1 l2 hno2
        have hg : gridInit k.ticks c.ts nti = false := gridInit_of_not_init ag hni
        unfold answer
        rw [hg]
        simp only [Bool.false_eq_true, if_false]
        rw [nextLiq_none s.liq c.aToB P.liqU, hl]
        refine ⟨rfl, ?_⟩
        rw [htk]; exact ag
    · rw [if_neg hp, if_pos hq, hliq, htick]
      refine ⟨rfl, ?_⟩
      rw [hticks]; exact ag
    · rw [if_neg hp, if_neg (not_not_intro hq), hliq, htick]
      refine ⟨rfl, ?_⟩
      rw [hticks]; exact ag
  refine ⟨{ remaining := ra.1, calculated := ra.2, price := sc.nextPrice, tick := cr.tick, liq := cr.liq,
            fee := s.feeSum + sc.feeAmount, fm := fm' }, ?_, ?_, ?_⟩
  · unfold sdkIter
    simp only [R.fm, R.rem, R.liq, R.price, R.cal, R.tick, R.fee, ck.dir, ck.inp, hstep, hra, hfm, hlt.1]
    rw [Nat.mod_eq_of_lt (by omega)]
  · exact { rem := rfl, cal := rfl, price := rfl, tick := rfl, liq := rfl, fee := rfl, fm := rfl }
  · exact hlt.2

theorem grid_le_floor (g s : Int) (ts : Nat) (hts : 0 < ts) (hg : g % (ts : Int) = 0) (h : g ≤ s) : g ≤ s - s % (ts : Int) := by
  have htsI : (0 : Int) < (ts : Int) := by omega
  have hm2 := Int.emod_lt_of_pos s htsI
  by_cases c : g ≤ s - s % (ts : Int)
  · exact c
  · have := mult_gap (ts : Int) (s - s % (ts : Int)) g htsI Int.dvd_self_sub_emod (Int.dvd_of_emod_eq_zero hg) (by omega)
    omega

theorem fuel_cast (n ts : Nat) : ((n * 88 + 1 : Nat) : Int) * (ts : Int) = (n : Int) * 88 * ts + ts := by
  push_cast; ring

/-- a→b: the window holds the search tick and the program's answer `r`, and a sentinel answer is the window's
    lower end (`P` stands for "`r` is initialized") -/
theorem Win.prev {arrays : List Int} {ts : Nat} {lo hi first last : Int} (W : Win arrays ts true lo hi first last)
    {idx i : Nat} {start st tick r : Int} {P : Prop} (harr : arrays[idx]? = some start) (hst : arrays[i]? = some st)
    (h2 : tick < start + 88 * (ts : Int)) (htM : tick ≤ MAX_TICK_INDEX) (q1 : st ≤ r) (hP : P → MIN_TICK_INDEX ≤ r)
    (hkind : P ∨ r = MIN_TICK_INDEX ∨ (r = st ∧ i + 1 = arrays.length ∧ MIN_TICK_INDEX < st)) :
    (P ∨ r = lo) ∧ lo ≤ r ∧ tick ≤ hi ∧ tick < lo + ((arrays.length * 88 + 1 : Nat) : Int) * ts := by
  have hs := W.mem _ _ harr
  have hs' := W.mem _ _ hst
  have hspan := W.span
  rw [fuel_cast, W.lo_eq, W.hi_eq]
  rcases hkind with hp | hm | ⟨hrst, hlast, hgt⟩
  · have := hP hp
    exact ⟨Or.inl hp, by omega⟩
  · exact ⟨Or.inr (by omega), by omega⟩
  · have he := W.endpt st (by rw [show arrays.length - 1 = i by omega]; exact hst)
    rw [if_pos rfl] at he
    exact ⟨Or.inr (by omega), by omega⟩

/-- b→a: as `Win.prev`, with the window's upper end; no grid tick above the search tick lies below the window -/
theorem Win.next {arrays : List Int} {ts : Nat} {lo hi first last : Int} (W : Win arrays ts false lo hi first last)
    (hts : 0 < ts) {idx i : Nat} {start st tick r : Int} {P : Prop} (harr : arrays[idx]? = some start)
    (hst : arrays[i]? = some st) (h1 : start - (ts : Int) ≤ tick) (htm : MIN_TICK_INDEX - 1 ≤ tick)
    (q2 : r < st + 88 * (ts : Int)) (hP : P → r ≤ MAX_TICK_INDEX)
    (hkind : P ∨ r = MAX_TICK_INDEX ∨
      (r = st + 88 * (ts : Int) - 1 ∧ i + 1 = arrays.length ∧ st + 88 * (ts : Int) ≤ MAX_TICK_INDEX)) :
    (P ∨ r = hi) ∧ (∀ x, tick < x → x % (ts : Int) = 0 → lo ≤ x) ∧ r ≤ hi ∧
      hi - (tick - tick % (ts : Int)) < ((arrays.length * 88 + 1 : Nat) : Int) * ts := by
  have hs := W.mem _ _ harr
  have hs' := W.mem _ _ hst
  have hspan := W.span
  have hfl := grid_le_floor (first - ts) tick ts hts (by rw [Int.sub_emod, W.grid]; simp) (by omega)
  have hlow : ∀ x, tick < x → x % (ts : Int) = 0 → lo ≤ x := by
    intro x hx hg
    have := C10.grid_ge first x ts hts W.grid hg (by omega)
    rw [W.lo_eq]; omega
  rw [fuel_cast, W.hi_eq]
  rcases hkind with hp | hm | ⟨hrst, hlast, hle⟩
  · have := hP hp
    exact ⟨Or.inl hp, hlow, by omega⟩
  · exact ⟨Or.inr (by omega), hlow, by omega⟩
  · have he := W.endpt st (by rw [show arrays.length - 1 = i by omega]; exact hst)
    rw [if_neg (by simp)] at he
    exact ⟨Or.inr (by omega), hlow, by omega⟩

/-- **the searches agree**: where the program's array-by-array search finds the next tick, the SDK's grid walk over
    the whole sequence returns the same index, with the tick's data exactly when it is initialized -/
theorem search_sim (c : SwapCtx) (k : SdkCtx) (ps : List (Nat × PositionD)) (p0 : Nat) (s : SwapSt) (first last : Int)
    (ok : CtxOK c) (ck : CtxRel c k) (P : Path c ps p0 s) (hne : c.limit ≠ s.price)
    (ag : TickAgree s.ticks k.ticks) (W : Win c.arrays c.ts c.aToB k.lo k.hi first last)
    (hfuel : k.searchFuel = c.arrays.length * 88 + 2) (r : Nat × Int)
    (h : seqNextInit s.ticks c.arrays c.ts c.aToB (c.arrays.length + 1) s.tick s.arrayIdx = .ok r) :
    (if c.aToB then sdkPrevInit k.ticks k.lo k.hi c.ts k.searchFuel s.tick
     else sdkNextInit k.ticks k.lo k.hi c.ts k.searchFuel s.tick) = .ok (answer k.ticks c.ts r.2) := by
  obtain ⟨start, harr, hrange⟩ := seq_first _ _ _ _ _ _ _ _ h
  have hcons := ok.consec
  -- the search starts inside the tick range: the tick found lies on the far side of the current one
  obtain ⟨n1, n2, _, hA⟩ := aim_of_search c ps p0 s ok P hne r h
  have hr := TP_range _ _ P.tp
  rw [hfuel]
  by_cases hd : c.aToB = true
  · rw [if_pos hd] at hrange hcons hA ⊢
    rw [hd] at h W
    have htick : MIN_TICK_INDEX ≤ s.tick ∧ s.tick ≤ MAX_TICK_INDEX := ⟨Int.le_trans n1 hA.1, hr.2⟩
    obtain ⟨i, r', hrun, hR⟩ := C10.seqNext_runDown s.ticks c.arrays c.ts ok.ts hcons (c.arrays.length + 1) s.arrayIdx
      s.tick start harr hrange.1 hrange.2 (by omega)
    obtain ⟨_, hrs, ⟨st, hst, q1, _, hkind⟩, hno⟩ := C10.interval_of_runDown ok.ts ok.aligned hR htick.1
    rw [hrun] at h
    cases h
    obtain ⟨hk, hlo, hhi, hf⟩ := W.prev harr hst hrange.2 htick.2 q1
      (fun hi => (init_grid s.ticks ps c.ts P.tf r' hi).2.1) hkind
    exact prevInit_spec k.ticks k.lo k.hi c.ts ok.ts s.tick r' hlo hrs hhi
      (fun x a b d => by rw [initAt_agree _ _ ag]; exact hno x a b d) (hk.imp_left (gridInit_of_init P.tf ag)) _ hf
  · rw [if_neg hd] at hrange hcons hA ⊢
    rw [Bool.eq_false_iff.mpr hd] at h W
    have htick : s.tick < MAX_TICK_INDEX ∧ MIN_TICK_INDEX - 1 ≤ s.tick := ⟨Int.lt_of_lt_of_le hA.1 n2, hr.1⟩
    obtain ⟨i, r', hrun, hR⟩ := C10.seqNext_runUp s.ticks c.arrays c.ts ok.ts hcons (c.arrays.length + 1) s.arrayIdx
      s.tick start harr hrange.1 hrange.2 (by omega)
    obtain ⟨_, hrs, ⟨st, hst, _, q2, hkind⟩, hno⟩ := C10.interval_of_runUp ok.ts ok.aligned hR htick.1
    rw [hrun] at h
    cases h
    obtain ⟨hk, hlow, hhi, hf⟩ := W.next ok.ts harr hst hrange.1 htick.2 q2
      (fun hi => (init_grid s.ticks ps c.ts P.tf r' hi).2.2) hkind
    exact nextInit_spec k.ticks k.lo k.hi c.ts ok.ts s.tick r' hrs hhi hlow
      (fun x a b d => by rw [initAt_agree _ _ ag]; exact hno x a b d) (hk.imp_left (gridInit_of_init P.tf ag)) _ hf

/-- the SDK's view of the program's inner-loop target -/
def toSdkInner (m0 : TickMap) (ts : Nat) : Option (Nat × Int × Nat × Nat) → Option (Option TickData × Int × Nat × Nat)
  | none => none
  | some (_, nti, ntp, tgt) => some ((answer m0 ts nti).1, nti, ntp, tgt)

/-- **the two nested loops in lock step** -/
theorem loop_sim (c : SwapCtx) (k : SdkCtx) (ps : List (Nat × PositionD)) (p0 : Nat) (first last : Int)
    (ok : CtxOK c) (ck : CtxRel c k) (W : Win c.arrays c.ts c.aToB k.lo k.hi first last)
    (hfuel : k.searchFuel = c.arrays.length * 88 + 2) :
    ∀ (fuel : Nat) (s : SwapSt) (inner : Option (Nat × Int × Nat × Nat)) (s' : SwapSt) (σ : SdkSt),
      Path c ps p0 s → TickAgree s.ticks k.ticks → Rel s σ →
      (∀ nai nti ntp tgt, inner = some (nai, nti, ntp, tgt) →
        Aim c s nai nti ∧ ntp = sp nti ∧ tgt = (if c.aToB then max c.limit (sp nti) else min c.limit (sp nti))) →
      swapLoop c fuel s inner = .ok s' →
      ∃ σ', sdkLoop k fuel σ (toSdkInner k.ticks c.ts inner) = .ok σ' ∧ Rel s' σ' := by
  intro fuel
  induction fuel with
  | zero => intro s inner s' σ _ _ _ _ h; unfold swapLoop at h; cases h
  | succ fuel ih =>
    intro s inner s' σ P ag R hin h
    cases inner with
    | none =>
      unfold swapLoop at h
      unfold toSdkInner sdkLoop
      rw [R.rem, R.price, ck.lim]
      by_cases hc : (decide (s.remaining > 0) && decide (c.limit ≠ s.price)) = true
      · rw [if_pos hc] at h ⊢
        simp only [Bool.and_eq_true, decide_eq_true_eq] at hc
        cases hs : seqNextInit s.ticks c.arrays c.ts c.aToB (c.arrays.length + 1) s.tick s.arrayIdx with
        | error e => rw [hs] at h; cases h
        | ok r =>
          rw [hs] at h
          simp only [] at h
          have hsearch := search_sim c k ps p0 s first last ok ck P hc.2 ag W hfuel r hs
          rw [ck.dir, ck.ts, R.tick, hsearch]
          simp only []
          have A := aim_of_search c ps p0 s ok P hc.2 r hs
          exact ih s (some (r.1, r.2, sp r.2, if c.aToB then max c.limit (sp r.2) else min c.limit (sp r.2))) s' σ P ag R
            (fun nai nti ntp tgt he => by cases he; exact ⟨A, rfl, rfl⟩) h
      · rw [if_neg hc] at h ⊢; cases h; exact ⟨σ, rfl, R⟩
    | some w =>
      obtain ⟨nai, nti, ntp, tgt⟩ := w
      obtain ⟨A, rfl, htgt⟩ := hin nai nti _ tgt rfl
      unfold swapLoop at h
      unfold toSdkInner sdkLoop
      cases hst : swapStep c s nai nti (sp nti) tgt with
      | error e => rw [hst] at h; cases h
      | ok s1 =>
        rw [hst] at h
        simp only [] at h
        obtain ⟨σ1, hiter, R1, ag1⟩ := iter_sim c k ps p0 s s1 σ nai nti tgt ok ck P A ag R htgt hst
        obtain ⟨P1, A1, _⟩ := step_path c ps p0 s s1 nai nti ok P A (htgt ▸ hst)
        rw [← htgt] at A1
        rw [hiter]
        simp only []
        rw [R1.rem, R1.price]
        by_cases hc : (decide (s1.remaining = 0) || decide (s1.price = tgt)) = true
        · rw [if_pos hc] at h ⊢
          exact ih s1 none s' σ1 P1 ag1 R1 (fun _ _ _ _ he => by cases he) h
        · rw [if_neg hc] at h ⊢
          simp only [Bool.or_eq_true, decide_eq_true_eq, not_or] at hc
          exact ih s1 (some (nai, nti, sp nti, tgt)) s' σ1 P1 ag1 R1
            (fun _ _ _ _ he => by cases he; exact ⟨A1 hc.2, rfl, htgt⟩) h

/-! ### the SDK's sequence bounds for the program's array list -/

theorem consecUp_index (l : List Int) (ts : Nat) (first : Int) (hc : ConsecUp l ts) (h0 : l[0]? = some first) :
    ∀ (k : Nat) (st : Int), l[k]? = some st → st = first + (k : Int) * (88 * (ts : Int)) := by
  intro k
  induction k with
  | zero => intro st h; rw [h0] at h; cases h; simp
  | succ k ih =>
    intro st h
    obtain ⟨b, hget⟩ : ∃ b, l[k]? = some b :=
      ⟨_, List.getElem?_eq_getElem (show k < l.length by have := lt_length_of_getElem? h; omega)⟩
    rw [hc k _ _ hget h, ih _ hget]
    push_cast; ring

theorem consecUp_tail (a : Int) (l : List Int) (ts : Nat) (hc : ConsecUp (a :: l) ts) : ConsecUp l ts :=
  fun k x y hx hy => hc (k + 1) x y hx hy

theorem evenly_of_consecUp (ts : Nat) : ∀ (l : List Int), ConsecUp l ts → sdkEvenly (88 * (ts : Int)) l = true := by
  intro l
  induction l with
  | nil => intro _; rfl
  | cons a rest ih =>
    intro hc
    cases rest with
    | nil => rfl
    | cons b rest2 =>
      unfold sdkEvenly
      have := hc 0 a b rfl rfl
      rw [ih (consecUp_tail a _ ts hc), Bool.and_true, decide_eq_true_eq]
      omega

theorem consecUp_reverse (l : List Int) (ts : Nat) (hc : ConsecDown l ts) : ConsecUp l.reverse ts := by
  intro k a b ha hb
  have hk1 : k + 1 < l.length := by simpa using lt_length_of_getElem? hb
  rw [List.getElem?_reverse (by omega)] at ha
  rw [List.getElem?_reverse hk1] at hb
  rw [show l.length - 1 - k = (l.length - 1 - (k + 1)) + 1 by omega] at ha
  have := hc _ _ _ hb ha
  omega

theorem bounds_up (asc : List Int) (ts : Nat) (hc : ConsecUp asc ts) (hal : StartsAligned asc ts) (hne : asc ≠ []) :
    ∃ first last, sdkBounds asc ts = .ok (max first MIN_TICK_INDEX, min (last + 88 * (ts : Int) - 1) MAX_TICK_INDEX) ∧
      asc[0]? = some first ∧ asc[asc.length - 1]? = some last ∧ first % (ts : Int) = 0 ∧
      (∀ (k : Nat) (st : Int), asc[k]? = some st → st = first + (k : Int) * (88 * (ts : Int))) := by
  have hT : ((TICK_ARRAY_SIZE : Nat) : Int) = 88 := rfl
  have hlen : 0 < asc.length := List.length_pos_iff.mpr hne
  obtain ⟨first, h0⟩ : ∃ a, asc[0]? = some a := ⟨_, List.getElem?_eq_getElem hlen⟩
  obtain ⟨last, hl⟩ : ∃ a, asc[asc.length - 1]? = some a :=
    ⟨_, List.getElem?_eq_getElem (show asc.length - 1 < asc.length by omega)⟩
  refine ⟨first, last, ?_, h0, hl, hal 0 _ h0, consecUp_index asc ts first hc h0⟩
  unfold sdkBounds
  rw [List.head?_eq_getElem?, List.getLast?_eq_getElem?, h0, hl]
  simp only [hT]
  rw [evenly_of_consecUp ts asc hc]
  rfl

/-- the window of `arrays` from the bounds of their ascending arrangement `asc` (`arrays` itself, or its reverse) -/
theorem win_of (asc arrays : List Int) (ts : Nat) (d : Bool) (first last : Int) (hlen : arrays.length = asc.length)
    (hne : arrays ≠ []) (hsub : ∀ (k : Nat) (st : Int), arrays[k]? = some st → ∃ j : Nat, asc[j]? = some st)
    (hl : asc[asc.length - 1]? = some last) (hg : first % (ts : Int) = 0)
    (hidx : ∀ (k : Nat) (st : Int), asc[k]? = some st → st = first + (k : Int) * (88 * (ts : Int)))
    (hend : ∀ st, arrays[arrays.length - 1]? = some st → st = if d then first else last) :
    Win arrays ts d (max first MIN_TICK_INDEX) (min (last + 88 * (ts : Int) - 1) MAX_TICK_INDEX) first last := by
  have hpos : 0 < arrays.length := List.length_pos_iff.mpr hne
  have hlast := hidx _ _ hl
  exact
    { mem := by
        intro k st hk
        obtain ⟨j, hj⟩ := hsub k st hk
        have hjl := lt_length_of_getElem? hj
        have e := hidx j st hj
        have h1 : (0 : Int) ≤ (j : Int) * (88 * (ts : Int)) := Int.mul_nonneg (by omega) (by omega)
        have h2 : (j : Int) * (88 * (ts : Int)) ≤ ((asc.length - 1 : Nat) : Int) * (88 * (ts : Int)) :=
          Int.mul_le_mul_of_nonneg_right (by omega) (by omega)
        omega,
      lo_eq := rfl, hi_eq := rfl, grid := hg, endpt := hend,
      span := by
        rw [hlast, hlen, show ((asc.length - 1 : Nat) : Int) = (asc.length : Int) - 1 by omega]
        ring_nf; omega }

theorem win_up (arrays : List Int) (ts : Nat) (hc : ConsecUp arrays ts) (hal : StartsAligned arrays ts) (hne : arrays ≠ []) :
    ∃ lo hi first last, sdkBounds arrays ts = .ok (lo, hi) ∧ Win arrays ts false lo hi first last := by
  obtain ⟨first, last, hb, h0, hl, hg, hidx⟩ := bounds_up arrays ts hc hal hne
  exact ⟨_, _, first, last, hb, win_of arrays arrays ts false first last rfl hne (fun k st hk => ⟨k, hk⟩) hl hg hidx
    (fun st hst => by rw [hl] at hst; cases hst; rfl)⟩

theorem win_down (arrays : List Int) (ts : Nat) (hc : ConsecDown arrays ts) (hal : StartsAligned arrays ts) (hne : arrays ≠ []) :
    ∃ lo hi first last, sdkBounds arrays.reverse ts = .ok (lo, hi) ∧ Win arrays ts true lo hi first last := by
  have hlen : 0 < arrays.length := List.length_pos_iff.mpr hne
  have hrev : ∀ (k : Nat) (st : Int), arrays[k]? = some st → arrays.reverse[arrays.length - 1 - k]? = some st := by
    intro k st hk
    have hkl := lt_length_of_getElem? hk
    rw [List.getElem?_reverse (by omega), show arrays.length - 1 - (arrays.length - 1 - k) = k by omega]
    exact hk
  have hal' : StartsAligned arrays.reverse ts := by
    intro k st hk
    rw [List.getElem?_reverse (by simpa using lt_length_of_getElem? hk)] at hk
    exact hal _ _ hk
  obtain ⟨first, last, hb, h0, hl, hg, hidx⟩ :=
    bounds_up arrays.reverse ts (consecUp_reverse arrays ts hc) hal' (by simpa using hne)
  refine ⟨_, _, first, last, hb, win_of arrays.reverse arrays ts true first last (by simp) hne (fun k st hk => ⟨_, hrev k st hk⟩)
    hl hg hidx (fun st hst => ?_)⟩
  have := hrev _ st hst
  rw [show arrays.length - 1 - (arrays.length - 1) = 0 by omega, h0] at this
  cases this; rfl

/-! ### the whole swap -/

/-- **C20 at swap level.**  On a pool whose tick map is consistent with a set of positions (`TickFacts`), whose
    liquidity is the sum of the positions covering the current tick and whose tick index matches its price, over
    an aligned consecutive non-empty array sequence, with a fee rate up to the hard limit, a protocol rate up to
    100 %, an in-range adaptive-fee state and any u64 amount: whenever the program's `swap` succeeds, the SDK's
    `compute_swap` on facades of the same state returns the same token A amount, token B amount and total fee. -/
theorem sdk_swap_eq (p : PoolD) (ticks : TickMap) (ps : List (Nat × PositionD)) (arrays : List Int) (amount limit : Nat)
    (isInput aToB : Bool) (now fuel : Nat) (af : Option AfInfo) (u : PostSwap)
    (hts : 0 < p.ts) (hseq : SeqOK arrays p.ts aToB) (hne : arrays ≠ [])
    (hliq : (p.liq : Int) = sumBy (inRangeLiq p.tick) ps) (tf : TickFacts ticks ps p.ts) (tp : TP p.tick p.price)
    (hL : p.liq ≤ U128_MAX) (hfee : p.feeRate ≤ FEE_RATE_HARD_LIMIT) (hproto : p.protoRate ≤ PROTOCOL_FEE_RATE_MUL_VALUE)
    (hamt : amount ≤ U64_MAX) (haf : ∀ info, af = some info → InfoOK info)
    (h : swap p ticks arrays amount limit isInput aToB now af fuel = .ok u) :
    sdkSwap p ticks (if aToB then arrays.reverse else arrays) amount limit isInput aToB now af fuel
      = .ok (u.amountA, u.amountB, u.lpFee + u.protoFee) := by
  obtain ⟨g1, g2, g3, g4⟩ := C03.swap_limit_guard _ _ _ _ _ _ _ _ _ _ _ h
  obtain ⟨rewards, fm, s, hfm, ok, P0, hloop, hfin, _⟩ :=
    swap_setup_fm p ticks ps arrays amount limit isInput aToB now fuel af u hts hseq hliq tf tp hL hfee hamt haf h
  obtain ⟨lo, hi, first, last, hb, W⟩ : ∃ lo hi first last,
      sdkBounds (if aToB then arrays.reverse else arrays) p.ts = .ok (lo, hi) ∧ Win arrays p.ts aToB lo hi first last := by
    have hs1 := hseq.1
    by_cases hd : aToB = true
    · rw [if_pos hd] at hs1 ⊢; rw [hd]; exact win_down arrays p.ts hs1 hseq.2 hne
    · rw [if_neg hd] at hs1 ⊢
      have hd' : aToB = false := Bool.eq_false_iff.mpr hd
      rw [hd']; exact win_up arrays p.ts hs1 hseq.2 hne
  have hpf : s.protoFee ≤ s.feeSum := by
    obtain ⟨inv, _⟩ := C06.loop_preserves _ amount (by simpa [swapCtxOf] using hproto) fuel _ s none
      (C06.loopInv_init p ticks arrays amount limit isInput aToB rewards fm) hloop
    rw [inv.fees, inv.proto]
    exact C06.sumCut_le _ (by simpa [swapCtxOf] using hproto) _
  let k : SdkCtx := { ticks := ticks, lo := lo, hi := hi, ts := p.ts, aToB := aToB, isInput := isInput,
                      limit := adjLimit limit aToB,
                      searchFuel := (if aToB then arrays.reverse else arrays).length * TICK_ARRAY_SIZE + 2 }
  have ck : CtxRel (swapCtxOf p arrays limit isInput aToB rewards) k := { ts := rfl, dir := rfl, inp := rfl, lim := rfl }
  have hfuelk : k.searchFuel = (swapCtxOf p arrays limit isInput aToB rewards).arrays.length * 88 + 2 := by
    show (if aToB then arrays.reverse else arrays).length * TICK_ARRAY_SIZE + 2 = arrays.length * 88 + 2
    cases aToB <;> simp [TICK_ARRAY_SIZE]
  let σ0 : SdkSt := { remaining := amount, calculated := 0, price := p.price, tick := p.tick, liq := p.liq, fee := 0, fm := fm }
  have R0 : Rel (swapInit p ticks amount aToB fm) σ0 :=
    { rem := rfl, cal := rfl, price := rfl, tick := rfl, liq := rfl, fee := rfl, fm := rfl }
  obtain ⟨σ', hσ, R'⟩ := loop_sim (swapCtxOf p arrays limit isInput aToB rewards) k ps p.price first last ok ck W hfuelk
    fuel (swapInit p ticks amount aToB fm) none s σ0 P0 (fun t => ⟨rfl, rfl⟩) R0 (fun _ _ _ _ he => by cases he) hloop
  unfold sdkSwap
  rw [hb]
  simp only []
  have c1 : ¬ (!(decide (MIN_SQRT_PRICE_X64 ≤ adjLimit limit aToB) && decide (adjLimit limit aToB ≤ MAX_SQRT_PRICE_X64))) = true := by
    simp [g1, g2]
  have c2 : ¬ ((aToB && decide (adjLimit limit aToB ≥ p.price)) || (!aToB && decide (adjLimit limit aToB ≤ p.price))) = true := by
    cases aToB <;> simp at g3 ⊢ <;> omega
  rw [if_neg c1, if_neg c2, if_neg g4, hfm]
  simp only []
  have hσ' : sdkLoop k fuel σ0 none = .ok σ' := hσ
  rw [hσ']
  simp only []
  obtain ⟨_, fm', _, rfl⟩ := swapFinish_ok.mp hfin
  simp only [R'.rem, R'.cal, R'.fee]
  rw [show s.feeSum - s.protoFee + s.protoFee = s.feeSum by omega]

/-- **C20 at every reachable state.**  After ANY finite history of operations (opens, liquidity changes, collections,
    reward settings, clock moves, swaps) on a pool — static or adaptive fee — a quote taken by the SDK on the resulting
    state equals what the program then executes for the same swap: token A, token B and total fee. -/
theorem sdk_quote_reachable {ts0 : Nat} (ops : List HistOp) (s0 : HistState) (inv0 : Inv s0) (g0 : Reach.Geo ts0 s0)
    (hops : ∀ op ∈ ops, Reach.OpOK ts0 op)
    (amount limit : Nat) (isInput aToB : Bool) (arrays : List Int) (u : PostSwap)
    (hseq : SeqOK arrays ts0 aToB) (hne : arrays ≠ []) (hamt : amount ≤ U64_MAX)
    (hproto : (ops.foldl Reach.histApply s0).pool.protoRate ≤ PROTOCOL_FEE_RATE_MUL_VALUE)
    (h : swap (ops.foldl Reach.histApply s0).pool (ops.foldl Reach.histApply s0).ticks arrays amount limit isInput aToB
          (ops.foldl Reach.histApply s0).now (ops.foldl Reach.histApply s0).af SWAP_FUEL = .ok u) :
    sdkSwap (ops.foldl Reach.histApply s0).pool (ops.foldl Reach.histApply s0).ticks (if aToB then arrays.reverse else arrays)
        amount limit isInput aToB (ops.foldl Reach.histApply s0).now (ops.foldl Reach.histApply s0).af SWAP_FUEL
      = .ok (u.amountA, u.amountB, u.lpFee + u.protoFee) := by
  obtain ⟨inv, g⟩ := Reach.reach ops s0 inv0 g0 hops
  generalize ops.foldl Reach.histApply s0 = st at *
  have hseq' : SeqOK arrays st.pool.ts aToB := by rw [g.spacing]; exact hseq
  exact sdk_swap_eq st.pool st.ticks st.positions arrays amount limit isInput aToB st.now SWAP_FUEL st.af u
    g.ts hseq' hne inv.liq (Reach.tickFacts_of st inv g) g.tp g.liqU g.fee hproto hamt g.af h

/-- non-vacuity: on the state after the example history of Reach.lean (two positions, a crossing swap, a swap back;
    current tick −1414) a b→a swap of 900000 succeeds in the program, crosses the initialized tick −128 and ends at
    tick −111; the SDK model returns the same three numbers -/
example : let st := Reach.exOps.foldl Reach.histApply { pool := Reach.exPool, now := 10 }
    ((swap st.pool st.ticks [-5632, 0] 900000 0 true false st.now st.af SWAP_FUEL).toOption.map
        (fun u => (u.amountA, u.amountB, u.lpFee + u.protoFee, u.tick)) = some (908368, 900000, 2701, -111) ∧
     (sdkSwap st.pool st.ticks [-5632, 0] 900000 0 true false st.now st.af SWAP_FUEL).toOption = some (908368, 900000, 2701)) = True := by
  decide +kernel

end WP.SdkSim
