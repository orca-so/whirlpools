import WP.Model.SdkSwap
import WP.Props.C16
import WP.Props.C02.Components
/-
  C20 / C16: the SDK's transfer-fee arithmetic (used by its swap and liquidity quotes) against the program's
  (`calculate_transfer_fee_excluded_amount` / `_included_amount` over spl-token-2022's `TransferFee`):
  `try_apply_transfer_fee` is the program's excluded amount, `try_reverse_apply_transfer_fee` is the program's included
  amount — same value when the program returns one, failure exactly when the program fails.
-/
set_option linter.unusedSimpArgs false
namespace WP.SdkTF
open WP WP.Gen WP.C16

theorem ceil_form (a b : Nat) : (a + b - 1) / b = ceilDivN a b := rfl

/-- **excluded amount**: what is left of `y` after the fee -/
theorem sdk_apply_tf_eq (f : TFee) (y : Nat) (hb : f.bps ≤ 10000) (hy : y ≤ U64_MAX) :
    sdkApplyTF y f.bps f.maxFee = .ok (excludedAmount (some f) y).1 := by
  have h64 := C02.u64_succ
  unfold sdkApplyTF excludedAmount TFee.fee
  simp only []
  rw [if_neg (by omega)]
  by_cases hz : (decide (f.bps = 0) || decide (y = 0)) = true
  · rw [if_pos hz, if_pos hz]; simp
  · rw [if_neg hz, if_neg hz]
    have hle : ceilDivN (y * f.bps) 10000 ≤ y := ceil_le y f.bps hb
    rw [ceil_form]
    rw [if_neg (by omega)]
    rw [wrapping_sub_eq _ _ _ (Nat.le_trans (Nat.min_le_left _ _) hle) (by omega)]

/-- the SDK's reverse function is spl's `calculate_pre_fee_amount` -/
theorem sdk_reverse_is_preFee (f : TFee) (x : Nat) (hb : f.bps ≤ 10000) :
    (sdkReverseTF x f.bps f.maxFee).toOption = f.preFee x := by
  unfold sdkReverseTF TFee.preFee
  rw [if_neg (by omega)]
  by_cases h0 : f.bps = 0
  · rw [if_pos h0, if_pos h0]; rfl
  · rw [if_neg h0, if_neg h0]
    by_cases hx : x = 0
    · rw [if_pos hx, if_pos hx]; rfl
    · rw [if_neg hx, if_neg hx]
      by_cases h100 : f.bps = 10000
      · rw [if_pos h100, if_pos h100]
        rw [Nat.add_comm f.maxFee x]
        split <;> rfl
      · rw [if_neg h100, if_neg h100]
        simp only []
        rw [ceil_form]
        have hr := raw_ge x (10000 - f.bps) (by omega) (by omega)
        rw [if_neg (by omega)]
        split
        · split <;> rfl
        · split <;> rfl

/-- below 100 % the program adds the fee of `calculate_pre_fee_amount`'s result; when that result nets exactly `x` and
    fits a u64, the program's overflow test and its check of the fee pass, and it returns that result -/
theorem included_of_preFee (f : TFee) (x : Nat) (hx : 0 < x) (h100 : f.bps ≠ 10000)
    (hnet : ∀ y, f.preFee x = some y → x + f.fee y = y ∧ y ≤ U64_MAX) :
    (includedAmount (some f) x).toOption.map (·.1) = f.preFee x := by
  unfold includedAmount TFee.inverseFee
  rw [if_neg (Nat.ne_of_gt hx)]
  simp only [if_neg h100]
  cases hp : f.preFee x with
  | none => rfl
  | some y =>
    obtain ⟨hs, hy⟩ := hnet y hp
    simp only []
    rw [hs, if_neg (Nat.not_lt_of_le hy), if_neg (not_not_intro rfl)]
    rfl

/-- **included amount**: same value when the program returns one, failure exactly when the program fails -/
theorem sdk_reverse_tf_eq (f : TFee) (x : Nat) (hb : f.bps ≤ 10000) (hx64 : x ≤ U64_MAX) :
    (sdkReverseTF x f.bps f.maxFee).toOption = (includedAmount (some f) x).toOption.map (·.1) := by
  rw [sdk_reverse_is_preFee f x hb]
  rcases Nat.eq_zero_or_pos x with rfl | hxp
  · have hp : f.preFee 0 = some 0 := by
      unfold TFee.preFee
      by_cases h0 : f.bps = 0
      · rw [if_pos h0]
      · rw [if_neg h0, if_pos rfl]
    rw [hp]; rfl
  · have hx : x ≠ 0 := Nat.ne_of_gt hxp
    by_cases h100 : f.bps = 10000
    · -- 100 %: the fee added is the maximum fee, which is the fee of the sum
      have hp : f.preFee x = (if f.maxFee + x ≤ U64_MAX then some (f.maxFee + x) else none) := by
        unfold TFee.preFee; rw [if_neg (by omega), if_neg hx, if_pos h100]
      rw [hp, Nat.add_comm]
      by_cases ho : x + f.maxFee ≤ U64_MAX
      · have hfee : f.fee (x + f.maxFee) = f.maxFee := by
          rw [fee_full f _ h100 (by omega)]; omega
        rw [if_pos ho, (included_ok f x _ _ hxp).mpr ⟨if_pos h100, rfl, ho, hfee⟩]
        rfl
      · unfold includedAmount
        rw [if_neg ho, if_neg hx]
        simp only [h100, if_true]
        rw [if_pos (Nat.lt_of_not_le ho)]
        rfl
    · refine (included_of_preFee f x hxp h100 fun y hy => ?_).symm
      by_cases h0 : f.bps = 0
      · unfold TFee.preFee at hy
        rw [if_pos h0] at hy
        cases hy
        exact ⟨by rw [fee_zero f x h0]; rfl, hx64⟩
      · -- the ordinary case: `calculate_pre_fee_amount` returns the least amount, whose net value is exactly `x`
        have hb0 : 0 < f.bps := Nat.pos_of_ne_zero h0
        have hb1 : f.bps < 10000 := Nat.lt_of_le_of_ne hb h100
        rw [preFee_eq f x hb0 hb1 hxp] at hy
        by_cases hfit : leastPre f x ≤ U64_MAX
        · rw [if_pos hfit] at hy
          cases hy
          have hsum := Nat.sub_add_cancel (fee_le f (leastPre f x) hb)
          rw [leastPre_exact f x hb0 hb1 hxp] at hsum
          exact ⟨hsum, hfit⟩
        · rw [if_neg hfit] at hy; cases hy

example : sdkReverseTF 1000000 300 5000 = .ok 1005000 ∧ includedAmount (some { bps := 300, maxFee := 5000 }) 1000000 = .ok (1005000, 5000) ∧
    sdkReverseTF 1000 300 5000 = .ok 1031 ∧ includedAmount (some { bps := 300, maxFee := 5000 }) 1000 = .ok (1031, 31) ∧
    sdkApplyTF 1031 300 5000 = .ok 1000 := by decide +kernel

end WP.SdkTF
