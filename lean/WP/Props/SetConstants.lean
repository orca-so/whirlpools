import WP.Props.C19
import WP.Props.SwapPath
/-
  C14 / C19, over histories that CHANGE the constants: `set_adaptive_fee_constants` (model `setAdaptiveFeeConstants`:
  merge of the optional arguments, refusal of a request that changes nothing, validation for the pool's tick spacing,
  RESET of the variables) leaves the pool's adaptive-fee state in the range every swap needs and keeps (`InfoOK`:
  accumulator and reference at most the configured maximum, reference group inside the tick bounds, reduction factor
  below its denominator, positive group size).  Together with `Path.swap_path` (every successful swap keeps `InfoOK` and
  the constants) this gives the clause "the volatility accumulator never exceeds its configured maximum" along every
  sequence of swaps and constant changes — in particular across a LOWERED maximum, which is exactly where a setter that
  kept the variables would break it (`no_reset_breaks` below is that counter-model).
-/
namespace WP.SetConstants
open WP WP.Gen WP.Path WP.C05

theorem set_constants_spec (ts : Nat) (info info' : AfInfo) (r : AfRequest)
    (h : setAdaptiveFeeConstants ts info r = .ok info') :
    info'.constants = r.apply info.constants ∧ info'.constants ≠ info.constants ∧
    validateConstants ts info'.constants = true ∧ info'.variables = {} := by
  unfold setAdaptiveFeeConstants at h
  simp only [] at h
  by_cases c1 : r.apply info.constants = info.constants
  · rw [if_pos c1] at h; cases h
  · rw [if_neg c1] at h
    by_cases c2 : validateConstants ts (r.apply info.constants) = true
    · rw [if_pos c2] at h
      cases h
      exact ⟨rfl, c1, c2, rfl⟩
    · rw [if_neg c2] at h; cases h

theorem set_constants_unchanged (ts : Nat) (info : AfInfo) (r : AfRequest) (h : r.apply info.constants = info.constants) :
    setAdaptiveFeeConstants ts info r = .error .AdaptiveFeeConstantsUnchanged := by
  unfold setAdaptiveFeeConstants
  simp only [h, if_true]

theorem set_constants_invalid (ts : Nat) (info : AfInfo) (r : AfRequest) (h : validateConstants ts (r.apply info.constants) = false) :
    ∀ info', setAdaptiveFeeConstants ts info r ≠ .ok info' := by
  intro info' c
  have := (set_constants_spec ts info info' r c).2.2.1
  rw [(set_constants_spec ts info info' r c).1, h] at this
  cases this

theorem apply_fields (r : AfRequest) (c : AfConstants) :
    (r.apply c).maxVolAcc = r.maxVolAcc.getD c.maxVolAcc ∧ (r.apply c).groupSize = r.groupSize.getD c.groupSize ∧
    (r.apply c).filterPeriod = r.filterPeriod.getD c.filterPeriod ∧ (r.apply c).decayPeriod = r.decayPeriod.getD c.decayPeriod ∧
    (r.apply c).reductionFactor = r.reductionFactor.getD c.reductionFactor ∧ (r.apply c).controlFactor = r.controlFactor.getD c.controlFactor ∧
    (r.apply c).majorSwapThresholdTicks = r.majorSwapThresholdTicks.getD c.majorSwapThresholdTicks :=
  ⟨rfl, rfl, rfl, rfl, rfl, rfl, rfl⟩

/-- **the state after the setter is in range** — whatever the variables were before (a pool that has traded, an
    accumulator above the new maximum) -/
theorem set_constants_infoOK (ts : Nat) (info info' : AfInfo) (r : AfRequest)
    (h : setAdaptiveFeeConstants ts info r = .ok info') : InfoOK info' := by
  obtain ⟨_, _, hv, hz⟩ := set_constants_spec ts info info' r h
  obtain ⟨_, _, _, _, hred, hgs, _⟩ := C19.validate_constants_spec ts info'.constants hv
  refine { gs := hgs, red := hred, var := ?_ }
  -- the reset variables: reference and accumulator 0, reference group 0
  rw [hz]
  refine ⟨Nat.zero_le _, Nat.zero_le _, ?_, ?_⟩
  · show MIN_TICK_INDEX ≤ (0 : Int) * (info'.constants.groupSize : Int) + info'.constants.groupSize
    rw [Int.zero_mul, Int.zero_add]
    exact Int.le_trans (by decide) (Int.natCast_nonneg _)
  · show (0 : Int) * (info'.constants.groupSize : Int) ≤ MAX_TICK_INDEX
    rw [Int.zero_mul]
    decide

/-- one step of a pool's adaptive-fee history: a successful swap (any pool state around it that meets `swap_path`'s
    hypotheses) or a successful change of the constants -/
inductive AfStep : AfInfo → AfInfo → Prop
  | swap (p : PoolD) (ticks : TickMap) (ps : List (Nat × PositionD)) (arrays : List Int) (amount limit : Nat)
      (isInput aToB : Bool) (now fuel : Nat) (info info' : AfInfo) (u : PostSwap)
      (hts : 0 < p.ts) (hseq : SeqOK arrays p.ts aToB)
      (hliq : (p.liq : Int) = sumBy (inRangeLiq p.tick) ps) (tf : TickFacts ticks ps p.ts) (tp : TP p.tick p.price)
      (hL : p.liq ≤ U128_MAX) (hfee : p.feeRate ≤ FEE_RATE_HARD_LIMIT) (hamt : amount ≤ U64_MAX)
      (h : WP.swap p ticks arrays amount limit isInput aToB now (some info) fuel = .ok u) (hu : u.afInfo = some info') :
      AfStep info info'
  | setConstants (ts : Nat) (info info' : AfInfo) (r : AfRequest) (h : setAdaptiveFeeConstants ts info r = .ok info') :
      AfStep info info'

inductive AfReach : AfInfo → AfInfo → Prop
  | refl (i : AfInfo) : AfReach i i
  | step (i j k : AfInfo) (h1 : AfReach i j) (h2 : AfStep j k) : AfReach i k

theorem step_infoOK (i j : AfInfo) (hi : InfoOK i) (h : AfStep i j) : InfoOK j := by
  cases h with
  | swap p ticks ps arrays amount limit isInput aToB now fuel _ _ u hts hseq hliq tf tp hL hfee hamt h hu =>
    have hp := swap_path p ticks ps arrays amount limit isInput aToB now fuel (some i) u hts hseq hliq tf tp hL hfee hamt
      (by intro info he; cases he; exact hi) h
    obtain ⟨info', e1, _, ok⟩ := hp.2.2.2.2.2.2 i rfl
    rw [hu] at e1
    cases e1
    exact ok
  | setConstants ts _ _ r h => exact set_constants_infoOK ts i j r h

theorem reach_infoOK (i j : AfInfo) (hi : InfoOK i) (h : AfReach i j) : InfoOK j := by
  induction h with
  | refl => exact hi
  | step j k _ h2 ih => exact step_infoOK j k ih h2

/-- **C14 over histories with constant changes**: starting from an Oracle in range (a freshly created one is:
    `set_constants_infoOK` / the initialiser), after ANY sequence of successful swaps and successful
    `set_adaptive_fee_constants` calls the stored accumulator and reference are at most the CURRENT configured
    maximum. -/
theorem accumulator_bounded_over_histories (i j : AfInfo) (hi : InfoOK i) (h : AfReach i j) :
    InfoOK j ∧ j.variables.volAcc ≤ j.constants.maxVolAcc ∧ j.variables.volRef ≤ j.constants.maxVolAcc := by
  have ok := reach_infoOK i j hi h
  exact ⟨ok, ok.var.2.1, ok.var.1⟩

/-- the setter WITHOUT the reset (what the seeded change C14_16 leaves when the group size is kept) -/
def setNoReset (tickSpacing : Nat) (info : AfInfo) (r : AfRequest) : R AfInfo :=
  let c := r.apply info.constants
  if c = info.constants then .error .AdaptiveFeeConstantsUnchanged
  else if validateConstants tickSpacing c then .ok { info with constants := c }
  else .error .InvalidAdaptiveFeeConstants

def exInfo : AfInfo :=
  ⟨{ filterPeriod := 30, decayPeriod := 600, reductionFactor := 5000, controlFactor := 4000, maxVolAcc := 350000,
     groupSize := 64, majorSwapThresholdTicks := 64 },
   { lastRefUpdateTs := 1000, lastMajorSwapTs := 1000, volRef := 100000, groupIndexRef := 5, volAcc := 290000 }⟩

def exLowered : AfConstants :=
  { filterPeriod := 30, decayPeriod := 600, reductionFactor := 5000, controlFactor := 4000, maxVolAcc := 100000,
    groupSize := 64, majorSwapThresholdTicks := 64 }

/-- the hypotheses are met by a real state, the setter succeeds on it, and the reset is what the theorem needs: lowering
    only the maximum of a pool that has traded keeps the bound with the reset and breaks it without -/
theorem no_reset_breaks :
    (∃ i, setAdaptiveFeeConstants 64 exInfo { maxVolAcc := some 100000 } = .ok i ∧ i.variables.volAcc ≤ i.constants.maxVolAcc) ∧
    (∃ i, setNoReset 64 exInfo { maxVolAcc := some 100000 } = .ok i ∧ ¬ i.variables.volAcc ≤ i.constants.maxVolAcc) := by
  refine ⟨⟨⟨exLowered, {}⟩, by decide +kernel, by decide +kernel⟩, ⟨⟨exLowered, exInfo.variables⟩, by decide +kernel, by decide +kernel⟩⟩

example : setAdaptiveFeeConstants 64 exInfo {} = .error .AdaptiveFeeConstantsUnchanged ∧
    setAdaptiveFeeConstants 64 exInfo { groupSize := some 48 } = .error .InvalidAdaptiveFeeConstants := by
  decide +kernel

end WP.SetConstants
