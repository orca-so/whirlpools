import WP.Model.Setup
import WP.Props.C19
/-
  C19 / C13 / C04 for the initialisers, as instructions: whatever gets created is in bounds and was authorised.
  (The models are tied to the real instructions, executed through the program's entrypoint, by families
  `xini` and `xtarr`.)  `auth`: 1 = a stranger signs in the authority's slot, 2 = the key in the slot does not
  sign; every other value is "the required authority signs".
-/
namespace WP.Setup
open WP WP.Gen WP.C19

/-- a config exists only with a bounded default protocol fee rate, and only an admin key could fund it -/
theorem init_config_sound (admin : Bool) (proto p : Nat) (h : initializeConfigIx admin proto = .ok p) :
    admin = true ∧ p = proto ∧ proto ≤ MAX_PROTOCOL_FEE_RATE := by
  rw [initializeConfigIx, err_ite_ok, Bool.not_eq_true, Bool.not_eq_false'] at h
  obtain ⟨ha, h⟩ := h
  split at h
  · cases h
  rename_i q hq
  cases h
  exact ⟨ha, updateProtocolFeeRate_ok.mp hq⟩

/-- a fee tier is created only by the config's fee authority, at the (free) address derived from config and
    spacing, with a non-zero spacing and a fee rate within the maximum -/
theorem init_fee_tier_sound (auth : Nat) (taken wrongAddr : Bool) (ts fee a f : Nat)
    (h : initializeFeeTierIx auth taken wrongAddr ts fee = .ok (a, f)) :
    auth ≠ 1 ∧ auth ≠ 2 ∧ taken = false ∧ wrongAddr = false ∧ a = ts ∧ ts ≠ 0 ∧ f = fee ∧ fee ≤ MAX_FEE_RATE := by
  simp only [initializeFeeTierIx, err_ite_ok, Bool.not_eq_true] at h
  obtain ⟨h2, hw, ht, h1, hts, h⟩ := h
  split at h
  · cases h
  rename_i q hq
  cases h
  obtain ⟨rfl, hq⟩ := updateFeeRate_ok.mp hq
  exact ⟨h1, h2, ht, hw, rfl, hts, rfl, hq⟩

/-- an adaptive fee tier is created only by the config's fee authority, at the (free) address derived from config
    and index, under an index other than its spacing (that one is the plain fee tier's), with a non-zero spacing,
    a base fee rate within the maximum and constants that satisfy the published validity rules for that spacing -/
theorem init_adaptive_fee_tier_sound (auth : Nat) (taken wrongAddr : Bool) (idx ts fee : Nat) (c : AfConstants) (a f : Nat)
    (h : initializeAdaptiveFeeTierIx auth taken wrongAddr idx ts fee c = .ok (a, f)) :
    auth ≠ 1 ∧ auth ≠ 2 ∧ taken = false ∧ wrongAddr = false ∧ idx ≠ ts ∧ a = ts ∧ ts ≠ 0 ∧ f = fee ∧ fee ≤ MAX_FEE_RATE ∧
    validateConstants ts c = true := by
  simp only [initializeAdaptiveFeeTierIx, err_ite_ok, Bool.not_eq_true] at h
  obtain ⟨h2, hw, ht, h1, hidx, hts, h⟩ := h
  split at h
  · cases h
  rename_i q hq
  simp only [err_ite_ok, Bool.not_eq_true, Bool.not_eq_false', Except.ok.injEq, Prod.mk.injEq] at h
  obtain ⟨hc, rfl, rfl⟩ := h
  obtain ⟨rfl, hq⟩ := updateFeeRate_ok.mp hq
  exact ⟨h1, h2, ht, hw, hidx, rfl, hts, rfl, hq, hc⟩

/-- a reward is initialized only by the pool's reward authority, at the lowest uninitialized index, and — through
    `initialize_reward_v2` — only over a mint that passes the admission table with the badge that really sits at
    the badge address; `initialize_reward` takes SPL Token mints only -/
theorem init_reward_sound (v2 : Bool) (auth idx ninit : Nat) (m : MintIn) (i : Nat)
    (h : initializeRewardIx v2 auth idx ninit m = .ok i) :
    auth ≠ 1 ∧ auth ≠ 2 ∧ i = idx ∧ idx = ninit ∧ idx < 3 ∧
    (v2 = false → m.token2022 = false) ∧
    (v2 = true → m.badge ≠ 2 ∧ isSupportedTokenMint m.token2022 m.native m.freeze (badgeInit m.badge) m.tlv = .ok true) := by
  simp only [initializeRewardIx, err_ite_ok, Bool.and_eq_true, Bool.not_eq_true', decide_eq_true_eq, not_and] at h
  obtain ⟨h2, hv1, h1, hseeds, h⟩ := h
  split at h
  · cases h
  rename_i u hu
  simp only [err_ite_ok, not_or, Decidable.not_not, Except.ok.injEq] at h
  obtain ⟨⟨hi, hn, he⟩, rfl⟩ := h
  refine ⟨h1, h2, rfl, he, by omega, fun e => by simpa using hv1 e, fun e => ⟨hseeds e, verify_mint_sound m u ?_⟩⟩
  rwa [if_pos e] at hu

/-- C19's badge clause at its root: a token badge of a config is issued (and deleted) only under the signature
    of the token-badge authority recorded in THAT config's extension, and only while the config's TOKEN_BADGE
    feature is on; the extension itself is created only by the config's fee authority -/
theorem token_badge_sound (auth : Nat) (feature taken otherExt : Bool) (h : initializeTokenBadgeIx auth feature taken otherExt = .ok ()) :
    auth ≠ 1 ∧ auth ≠ 2 ∧ feature = true ∧ taken = false ∧ otherExt = false := by
  simp only [initializeTokenBadgeIx, err_ite_ok, Bool.not_eq_true, Bool.not_eq_false', and_true] at h
  obtain ⟨h2, ht, ho, h1, hf⟩ := h
  exact ⟨h1, h2, hf, ht, ho⟩

theorem delete_badge_sound (auth : Nat) (feature present : Bool) (h : deleteTokenBadgeIx auth feature present = .ok ()) :
    auth ≠ 1 ∧ auth ≠ 2 ∧ feature = true ∧ present = true := by
  simp only [deleteTokenBadgeIx, err_ite_ok, Bool.not_eq_true, Bool.not_eq_false', and_true] at h
  obtain ⟨h2, hp, h1, hf⟩ := h
  exact ⟨h1, h2, hf, hp⟩

theorem config_extension_sound (auth : Nat) (taken wrongAddr : Bool) (h : initializeConfigExtensionIx auth taken wrongAddr = .ok ()) :
    auth ≠ 1 ∧ auth ≠ 2 ∧ taken = false ∧ wrongAddr = false := by
  simp only [initializeConfigExtensionIx, err_ite_ok, Bool.not_eq_true, and_true] at h
  obtain ⟨h2, hw, ht, h1⟩ := h
  exact ⟨h1, h2, ht, hw⟩

/-- `initialize_pool` (v1) creates pools only over SPL Token mints, with the same bounds as v2 -/
theorem init_pool_v1_sound (keyA keyB : Nat) (t22a t22b : Bool) (price ts tierTs fee proto : Nat) (p : PoolD)
    (h : initializePoolV1 keyA keyB t22a t22b price ts tierTs fee proto = .ok p) :
    t22a = false ∧ t22b = false ∧ tierTs = ts ∧ keyA < keyB ∧ p.price = price ∧ MIN_SQRT_PRICE_X64 ≤ price ∧
    price ≤ MAX_SQRT_PRICE_X64 ∧ p.ts = ts ∧ ts ≠ 0 ∧ p.feeRate = fee ∧ fee ≤ MAX_FEE_RATE ∧
    p.protoRate = proto ∧ proto ≤ MAX_PROTOCOL_FEE_RATE := by
  simp only [initializePoolV1, err_ite_ok, Bool.or_eq_true, not_or, Bool.not_eq_true, Decidable.not_not] at h
  obtain ⟨⟨ha, hb⟩, hts, h⟩ := h
  split at h
  · cases h
  rename_i q hq
  cases h
  obtain ⟨k1, k2, k3, k4, k5, k6, rfl⟩ := initializePoolChecks_ok.mp hq
  exact ⟨ha, hb, hts, k1, rfl, k2, k3, rfl, k4, rfl, k5, rfl, k6⟩

-- Non-vacuity (kernel evaluation): each initialiser succeeds on a good input and is refused on the bad ones
example :
    (initializeConfigIx true 2500).toOption = some 2500 ∧ (initializeConfigIx true 2501).toOption = none ∧
    (initializeConfigIx false 300).toOption = none ∧
    (initializeFeeTierIx 0 false false 64 3000).toOption = some (64, 3000) ∧ (initializeFeeTierIx 1 false false 64 3000).toOption = none ∧
    (initializeFeeTierIx 0 false true 64 3000).toOption = none ∧
    (initializeFeeTierIx 0 false false 0 3000).toOption = none ∧ (initializeFeeTierIx 0 false false 64 60001).toOption = none ∧
    (initializeRewardIx true 0 1 1 { token2022 := true, native := false, freeze := false, tlv := [12, 0, 0, 0], badge := 1 }).toOption = some 1 ∧
    (initializeRewardIx true 0 1 1 { token2022 := true, native := false, freeze := false, tlv := [12, 0, 0, 0], badge := 0 }).toOption = none ∧
    (initializeRewardIx true 0 2 1 { token2022 := false, native := false, freeze := false, tlv := [], badge := 0 }).toOption = none := by
  decide +kernel

end WP.Setup
