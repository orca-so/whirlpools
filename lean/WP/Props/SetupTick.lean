import WP.Model.Setup
import WP.Lemmas.Except
/-
  C13 for the tick-array initialisers as instructions (tied to the real instructions by family `xtarr`).
-/
namespace WP.SetupTick
open WP WP.Gen

/-- C13: a tick array comes into existence only for a valid start index (`C12.validStart_dvd`, `C10.valid_of_mult`: a multiple of
    88·spacing within the tick bounds, or the one left-edge array), and never over something that is already at
    its address; the idempotent dynamic initialiser leaves an existing array alone -/
theorem init_tick_array_sound (dynamic idem : Bool) (pre : TarrPre) (start : Int) (ts : Nat) (o : TarrOut)
    (h : initializeTickArrayIx dynamic idem pre start ts = .ok o) :
    pre ≠ .wrongAddress ∧
    (o = .existing → dynamic = true ∧ idem = true ∧ (pre = .fixed ∨ pre = .dynamic)) ∧
    (o ≠ .existing → pre = .nothing ∧ validStartTick start ts = true ∧ (o = .createdDynamic ↔ dynamic = true)) := by
  rw [initializeTickArrayIx.eq_def, err_ite_ok] at h
  obtain ⟨hwa, h⟩ := h
  refine ⟨hwa, ?_⟩
  cases dynamic with
  | false =>
    simp only [Bool.not_false, if_true, err_ite_ok, ne_eq, Decidable.not_not, Bool.not_eq_true, Bool.not_eq_false',
      Except.ok.injEq] at h
    obtain ⟨hp, v, rfl⟩ := h
    exact ⟨nofun, fun _ => ⟨hp, v, by simp⟩⟩
  | true =>
    have existing : (if idem = true then Except.ok TarrOut.existing else Except.error "AccountDiscriminatorAlreadySet") = .ok o →
        idem = true ∧ o = .existing := by
      intro h
      split at h
      · cases h; exact ⟨‹_›, rfl⟩
      · cases h
    cases pre with
    | wrongAddress => exact absurd rfl hwa
    | foreign => cases h
    | fixed =>
      obtain ⟨hi, rfl⟩ := existing h
      exact ⟨fun _ => ⟨rfl, hi, Or.inl rfl⟩, fun e => absurd rfl e⟩
    | dynamic =>
      obtain ⟨hi, rfl⟩ := existing h
      exact ⟨fun _ => ⟨rfl, hi, Or.inr rfl⟩, fun e => absurd rfl e⟩
    | nothing =>
      simp only [Bool.not_true, Bool.false_eq_true, if_false, err_ite_ok, Bool.not_eq_true, Bool.not_eq_false', Except.ok.injEq] at h
      obtain ⟨v, rfl⟩ := h
      exact ⟨nofun, fun _ => ⟨rfl, v, by simp⟩⟩

-- Non-vacuity (kernel evaluation)
example :
    (initializeTickArrayIx true false .nothing (-5632) 64).toOption = some .createdDynamic ∧
    (initializeTickArrayIx false false .nothing (-5631) 64).toOption = none ∧
    (initializeTickArrayIx false false .nothing (-444928) 64).toOption = some .createdFixed ∧
    (initializeTickArrayIx false false .nothing (-450560) 64).toOption = none ∧
    (initializeTickArrayIx true true .fixed 0 64).toOption = some .existing ∧
    (initializeTickArrayIx true false .fixed 0 64).toOption = none ∧
    (initializeTickArrayIx true true .foreign 0 64).toOption = none ∧
    (initializeTickArrayIx true true .wrongAddress 0 64).toOption = none := by
  decide +kernel

end WP.SetupTick
