import WP.Props.PositionFees
import Mathlib.Tactic.Linarith
import Mathlib.Tactic.Ring
import Mathlib.Algebra.Order.Field.Basic
import Mathlib.Data.Rat.Cast.Order
import Mathlib.Data.Nat.Cast.Order.Field
/-
  C01 — solvency.  Definitions and the list / arithmetic layer.

  Every claim on a vault is measured EXACTLY, as a rational number:
    * `val tokA p q`   the tokens position `q` would get for all of its liquidity at sqrt-price `p`,
                       before rounding:   A: L·2^64·(1/p̄ − 1/p_u),   B: L·(p̄ − p_l)/2^64,   p̄ = p clamped
                       to the range [p_l, p_u] of the position;
    * `L·pend/2^64`    the fee the position would be credited if it were touched now (before rounding,
                       `pend` = fee growth inside − checkpoint, mod 2^128: the program's own quantity);
    * `owed`           the fee already credited.
  `claimOf` (Swap.lean) is their sum, `Solv` says the vault holds at least the protocol fee plus all claims.
  The program only ever pays FLOORS of these amounts and takes CEILINGS, so `Solv` (over exact
  claims) is stronger than solvency over the amounts actually payable.
-/
namespace WP.Solv
open WP WP.Gen WP.C05 WP.Path WP.Reach WP.Growth

/-! ### rational sums over the position list -/

def sumQ (f : PositionD → ℚ) : List (Nat × PositionD) → ℚ
  | [] => 0
  | (_, p) :: r => f p + sumQ f r

theorem sumQ_le (f g : PositionD → ℚ) : ∀ l : List (Nat × PositionD), (∀ kp ∈ l, f kp.2 ≤ g kp.2) → sumQ f l ≤ sumQ g l := by
  intro l
  induction l with
  | nil => intro _; exact le_refl _
  | cons hd tl ih =>
    intro h
    exact add_le_add (h hd List.mem_cons_self) (ih fun kp hk => h kp (List.mem_cons_of_mem _ hk))

theorem sumQ_congr (f g : PositionD → ℚ) (l : List (Nat × PositionD)) (h : ∀ kp ∈ l, f kp.2 = g kp.2) : sumQ f l = sumQ g l :=
  le_antisymm (sumQ_le f g l fun kp hk => (h kp hk).le) (sumQ_le g f l fun kp hk => (h kp hk).ge)

theorem sumQ_add (f g : PositionD → ℚ) (l : List (Nat × PositionD)) : sumQ (fun p => f p + g p) l = sumQ f l + sumQ g l := by
  induction l with
  | nil => simp only [sumQ, add_zero]
  | cons hd tl ih => simp only [sumQ, ih]; ring

theorem sumQ_mul (f : PositionD → ℚ) (c : ℚ) (l : List (Nat × PositionD)) : sumQ (fun p => f p * c) l = sumQ f l * c := by
  induction l with
  | nil => simp only [sumQ, zero_mul]
  | cons hd tl ih => simp only [sumQ, ih]; ring

theorem sumQ_nonneg (f : PositionD → ℚ) (l : List (Nat × PositionD)) (h : ∀ kp ∈ l, 0 ≤ f kp.2) : 0 ≤ sumQ f l := by
  have h0 : sumQ (fun p => f p * 0) l = 0 := by rw [sumQ_mul, mul_zero]
  rw [← h0]
  exact sumQ_le _ f l fun kp hk => by rw [mul_zero]; exact h kp hk

theorem sumQ_cast (f : PositionD → Int) (l : List (Nat × PositionD)) : ((sumBy f l : Int) : ℚ) = sumQ (fun p => ((f p : Int) : ℚ)) l := by
  induction l with
  | nil => simp only [sumQ, sumBy, Int.cast_zero]
  | cons hd tl ih => simp only [sumQ, sumBy, Int.cast_add, ih]

theorem sumQ_mem_le (f : PositionD → ℚ) : ∀ (l : List (Nat × PositionD)) (kp : Nat × PositionD), (∀ x ∈ l, 0 ≤ f x.2) → kp ∈ l →
    f kp.2 ≤ sumQ f l := by
  intro l
  induction l with
  | nil => intro kp _ h; cases h
  | cons hd tl ih =>
    intro kp hnn hk
    have hnn' := fun x hx => hnn x (List.mem_cons_of_mem _ hx)
    rcases List.mem_cons.mp hk with h | h
    · rw [h]; exact le_add_of_nonneg_right (sumQ_nonneg f tl hnn')
    · exact le_trans (ih kp hnn' h) (le_add_of_nonneg_left (hnn hd List.mem_cons_self))

theorem sumQ_eq_iff (f g : PositionD → ℚ) : ∀ l : List (Nat × PositionD), (∀ kp ∈ l, f kp.2 ≤ g kp.2) →
    (sumQ f l = sumQ g l ↔ ∀ kp ∈ l, f kp.2 = g kp.2) := by
  intro l
  induction l with
  | nil => intro _; simp only [sumQ, List.not_mem_nil, false_imp_iff, implies_true]
  | cons hd tl ih =>
    intro h
    have h0 : f hd.2 ≤ g hd.2 := h hd List.mem_cons_self
    have h' := fun x hx => h x (List.mem_cons_of_mem _ hx)
    have hn := sumQ_le f g tl h'
    rw [List.forall_mem_cons, ← ih h']
    exact add_eq_add_iff_eq_and_eq h0 hn

/-! ### the position list: ids are kept strictly increasing (`posSet` inserts in order, `posReplace` keeps ids) -/

def IdsOK (l : List (Nat × PositionD)) : Prop := l.Pairwise (fun a b => a.1 < b.1)

theorem posGet_of_mem (l : List (Nat × PositionD)) (ids : IdsOK l) (k : Nat) (q : PositionD) (h : (k, q) ∈ l) :
    posGet l k = some q := by
  induction l with
  | nil => cases h
  | cons hd tl ih =>
    obtain ⟨k0, w⟩ := hd
    obtain ⟨ids1, ids2⟩ := List.pairwise_cons.mp ids
    unfold posGet
    rcases List.mem_cons.mp h with e | e
    · cases e; rw [if_pos rfl]
    · rw [if_neg (Nat.ne_of_lt (ids1 (k, q) e)), ih ids2 e]

theorem posReplace_ids (l : List (Nat × PositionD)) (id : Nat) (v : PositionD) :
    (posReplace l id v).map Prod.fst = l.map Prod.fst := by
  induction l with
  | nil => rfl
  | cons hd tl ih =>
    unfold posReplace
    split
    · rename_i e; simp only [List.map_cons, e]
    · simp only [List.map_cons, ih]

theorem mem_replace_other (l : List (Nat × PositionD)) (id : Nat) (v : PositionD) (kp : Nat × PositionD)
    (h : kp ∈ l) (hk : kp.1 ≠ id) : kp ∈ posReplace l id v := by
  induction l with
  | nil => cases h
  | cons hd tl ih =>
    unfold posReplace
    split
    · rename_i e
      rcases List.mem_cons.mp h with h1 | h1
      · rw [h1] at hk; exact absurd e hk
      · exact List.mem_cons_of_mem _ h1
    · rcases List.mem_cons.mp h with h1 | h1
      · rw [h1]; exact List.mem_cons_self
      · exact List.mem_cons_of_mem _ (ih h1)

theorem idsOK_replace (l : List (Nat × PositionD)) (id : Nat) (v : PositionD) (ids : IdsOK l) : IdsOK (posReplace l id v) := by
  unfold IdsOK at ids ⊢
  rw [← List.pairwise_map (f := Prod.fst) (R := (· < ·))] at ids ⊢
  rw [posReplace_ids]; exact ids

theorem mem_posSet_id (l : List (Nat × PositionD)) (id : Nat) (v : PositionD) (b : Nat × PositionD) (hb : b ∈ posSet l id v) :
    b ∈ l ∨ b = (id, v) := by
  induction l with
  | nil => exact Or.inr (List.mem_singleton.mp hb)
  | cons hd tl ih =>
    unfold posSet at hb
    split at hb
    · exact (List.mem_cons.mp hb).symm.imp_left (List.mem_cons_of_mem _)
    · split at hb
      · exact (List.mem_cons.mp hb).symm
      · rcases List.mem_cons.mp hb with h | h
        · exact Or.inl (h ▸ List.mem_cons_self)
        · exact (ih h).imp_left (List.mem_cons_of_mem _)

theorem idsOK_insert (l : List (Nat × PositionD)) (id : Nat) (v : PositionD) (ids : IdsOK l) (hn : posGet l id = none) :
    IdsOK (posSet l id v) := by
  induction l with
  | nil => exact List.pairwise_singleton _ _
  | cons hd tl ih =>
    obtain ⟨k0, w⟩ := hd
    obtain ⟨ids1, ids2⟩ := List.pairwise_cons.mp ids
    unfold posGet at hn
    unfold posSet
    split at hn
    · cases hn
    · rename_i e
      rw [if_neg e]
      split
      · rename_i e2
        exact List.pairwise_cons.mpr ⟨fun b hb => by
          rcases List.mem_cons.mp hb with h | h
          · rw [h]; exact e2
          · exact Nat.lt_trans e2 (ids1 b h), ids⟩
      · refine List.pairwise_cons.mpr ⟨fun b hb => ?_, ih ids2 hn⟩
        rcases mem_posSet_id tl id v b hb with h | h
        · exact ids1 b h
        · rw [h]; show k0 < id; omega

theorem sumQ_replace (f g : PositionD → ℚ) : ∀ (l : List (Nat × PositionD)) (id : Nat) (old new : PositionD),
    IdsOK l → posGet l id = some old → (∀ kp ∈ l, kp.1 ≠ id → g kp.2 = f kp.2) →
    sumQ g (posReplace l id new) = sumQ f l - f old + g new := by
  intro l
  induction l with
  | nil => intro id old new _ h; cases h
  | cons hd tl ih =>
    intro id old new ids h hc
    obtain ⟨k, w⟩ := hd
    obtain ⟨ids1, ids2⟩ := List.pairwise_cons.mp ids
    unfold posGet at h
    unfold posReplace
    split at h
    · rename_i e
      cases h
      rw [if_pos e]
      simp only [sumQ]
      rw [sumQ_congr g f tl fun kp hk => hc kp (List.mem_cons_of_mem _ hk) (by have := ids1 kp hk; omega)]
      ring
    · rename_i e
      rw [if_neg e]
      simp only [sumQ]
      rw [ih id old new ids2 h (fun kp hk => hc kp (List.mem_cons_of_mem _ hk)), hc (k, w) List.mem_cons_self e]
      ring

theorem sumQ_insert (f : PositionD → ℚ) : ∀ (l : List (Nat × PositionD)) (id : Nat) (v : PositionD),
    posGet l id = none → sumQ f (posSet l id v) = sumQ f l + f v := by
  intro l
  induction l with
  | nil => intro id v _; simp only [posSet, sumQ]; ring
  | cons hd tl ih =>
    intro id v h
    obtain ⟨k, w⟩ := hd
    unfold posGet at h
    unfold posSet
    split at h
    · cases h
    · rename_i e
      rw [if_neg e]
      split
      · simp only [sumQ]; ring
      · simp only [sumQ, ih id v h]; ring

theorem foldl_keeps {α β : Type} (P : α → Prop) (Q : β → Prop) (f : α → β → α) (h : ∀ a b, P a → Q b → P (f a b)) :
    ∀ (l : List β) (a : α), P a → (∀ b ∈ l, Q b) → P (l.foldl f a) := by
  intro l
  induction l with
  | nil => intro a ha _; exact ha
  | cons b rest ih =>
    intro a ha hl
    exact ih _ (h a b ha (hl b List.mem_cons_self)) (fun c hc => hl c (List.mem_cons_of_mem _ hc))

/-! ### the exact value of a position's liquidity -/

def clampP (p lo hi : Nat) : Nat := max lo (min p hi)

/-- value per unit of liquidity of the range [pl, pu] at price p, token A resp. B -/
def unitVal (tokA : Bool) (p pl pu : Nat) : ℚ :=
  if tokA then (TWO64 : ℚ) / (clampP p pl pu : ℚ) - (TWO64 : ℚ) / (pu : ℚ)
  else ((clampP p pl pu : ℚ) - (pl : ℚ)) / (TWO64 : ℚ)

def val (tokA : Bool) (p : Nat) (q : PositionD) : ℚ := (q.liq : ℚ) * unitVal tokA p (sp q.lower) (sp q.upper)

theorem two64_pos : (0 : ℚ) < (TWO64 : ℚ) := by
  have : (0 : Nat) < TWO64 := by decide
  exact_mod_cast this

theorem clamp_bounds (p lo hi : Nat) (h : lo ≤ hi) : lo ≤ clampP p lo hi ∧ clampP p lo hi ≤ hi := by
  unfold clampP; omega

theorem clamp_low (p lo hi : Nat) (h : p ≤ lo) : clampP p lo hi = lo := by unfold clampP; omega
theorem clamp_high (p lo hi : Nat) (h : hi ≤ p) (hlh : lo ≤ hi) : clampP p lo hi = hi := by unfold clampP; omega
theorem clamp_mid (p lo hi : Nat) (h1 : lo ≤ p) (h2 : p ≤ hi) : clampP p lo hi = p := by unfold clampP; omega

theorem unitVal_below (p pl pu : Nat) (h : p ≤ pl) :
    unitVal true p pl pu = (TWO64 : ℚ) / (pl : ℚ) - (TWO64 : ℚ) / (pu : ℚ) ∧ unitVal false p pl pu = 0 := by
  unfold unitVal
  rw [clamp_low p pl pu h, sub_self, zero_div]
  exact ⟨rfl, rfl⟩

theorem unitVal_mid (p pl pu : Nat) (h1 : pl ≤ p) (h2 : p ≤ pu) :
    unitVal true p pl pu = (TWO64 : ℚ) / (p : ℚ) - (TWO64 : ℚ) / (pu : ℚ) ∧ unitVal false p pl pu = ((p : ℚ) - (pl : ℚ)) / (TWO64 : ℚ) := by
  unfold unitVal
  rw [clamp_mid p pl pu h1 h2]
  exact ⟨rfl, rfl⟩

theorem unitVal_above (p pl pu : Nat) (h : pu ≤ p) (hlu : pl ≤ pu) :
    unitVal true p pl pu = 0 ∧ unitVal false p pl pu = ((pu : ℚ) - (pl : ℚ)) / (TWO64 : ℚ) := by
  unfold unitVal
  rw [clamp_high p pl pu h hlu, sub_self]
  exact ⟨rfl, rfl⟩

theorem unitVal_nonneg (tokA : Bool) (p pl pu : Nat) (h0 : 0 < pl) (h : pl ≤ pu) : 0 ≤ unitVal tokA p pl pu := by
  obtain ⟨c1, c2⟩ := clamp_bounds p pl pu h
  unfold unitVal
  cases tokA
  · exact div_nonneg (sub_nonneg.mpr (Nat.cast_le.mpr c1)) two64_pos.le
  · exact sub_nonneg.mpr (div_le_div_of_nonneg_left two64_pos.le (Nat.cast_pos.mpr (Nat.lt_of_lt_of_le h0 c1)) (Nat.cast_le.mpr c2))

theorem val_nonneg (tokA : Bool) (p : Nat) (q : PositionD) (h0 : 0 < sp q.lower) (h : sp q.lower ≤ sp q.upper) : 0 ≤ val tokA p q :=
  mul_nonneg (Nat.cast_nonneg _) (unitVal_nonneg tokA p _ _ h0 h)

/-- the value moves by (liquidity) × (price move term) while the price stays inside the closed range -/
def moveTerm (tokA : Bool) (p p' : Nat) : ℚ :=
  if tokA then (TWO64 : ℚ) / (p' : ℚ) - (TWO64 : ℚ) / (p : ℚ) else ((p' : ℚ) - (p : ℚ)) / (TWO64 : ℚ)

theorem unitVal_move_in (tokA : Bool) (p p' pl pu : Nat) (h1 : pl ≤ p) (h2 : p ≤ pu) (h3 : pl ≤ p') (h4 : p' ≤ pu) :
    unitVal tokA p' pl pu - unitVal tokA p pl pu = moveTerm tokA p p' := by
  unfold unitVal moveTerm
  rw [clamp_mid p pl pu h1 h2, clamp_mid p' pl pu h3 h4]
  cases tokA
  · simp only [Bool.false_eq_true, if_false]; ring
  · simp only [if_true]; ring

/-- the value of one position over a price move that stays on one side of each of its bounds -/
theorem val_move (tokA : Bool) (t : Int) (p p' : Nat) (q : PositionD)
    (h : q.liq = 0 ∨
      ((q.lower ≤ t ∧ t < q.upper) ∧ sp q.lower ≤ p ∧ p ≤ sp q.upper ∧ sp q.lower ≤ p' ∧ p' ≤ sp q.upper) ∨
      (¬ (q.lower ≤ t ∧ t < q.upper) ∧ clampP p (sp q.lower) (sp q.upper) = clampP p' (sp q.lower) (sp q.upper))) :
    val tokA p' q = val tokA p q + ((inRangeLiq t q : Int) : ℚ) * moveTerm tokA p p' := by
  unfold val inRangeLiq
  rcases h with h0 | ⟨hr, a, b, c, d⟩ | ⟨hr, hc⟩
  · simp only [h0, Nat.cast_zero, ite_self, Int.cast_zero, zero_mul, add_zero]
  · rw [if_pos hr, ← unitVal_move_in tokA p p' _ _ a b c d, Int.cast_natCast]; ring
  · rw [if_neg hr, Int.cast_zero, zero_mul, add_zero]; unfold unitVal; rw [hc]

/-- **the value of all positions moves by (in-range liquidity) × (move term)** when every position
    holding liquidity is either in range with the whole move inside its closed price range, or out of
    range with the move entirely on one side -/
theorem sum_val_move (tokA : Bool) (t : Int) (p p' : Nat) : ∀ ps : List (Nat × PositionD),
    (∀ kp ∈ ps, kp.2.liq = 0 ∨
      ((kp.2.lower ≤ t ∧ t < kp.2.upper) ∧ sp kp.2.lower ≤ p ∧ p ≤ sp kp.2.upper ∧ sp kp.2.lower ≤ p' ∧ p' ≤ sp kp.2.upper) ∨
      (¬ (kp.2.lower ≤ t ∧ t < kp.2.upper) ∧ clampP p (sp kp.2.lower) (sp kp.2.upper) = clampP p' (sp kp.2.lower) (sp kp.2.upper))) →
    sumQ (val tokA p') ps - sumQ (val tokA p) ps = ((sumBy (inRangeLiq t) ps : Int) : ℚ) * moveTerm tokA p p' := by
  intro ps h
  rw [sumQ_congr (val tokA p') (fun q => val tokA p q + ((inRangeLiq t q : Int) : ℚ) * moveTerm tokA p p') ps
    fun kp hk => val_move tokA t p p' kp.2 (h kp hk), sumQ_add, sumQ_mul, ← sumQ_cast, add_sub_cancel_left]

end WP.Solv
