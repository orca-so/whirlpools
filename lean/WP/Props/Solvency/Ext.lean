import WP.Props.Solvency.Final
import WP.Props.C18
/-
  C01 / C18 — re-ranging and repositioning keep the solvency invariant.

  The history machine `HistOp` has no operation that changes a position's range.  The program has two:
  `reset_position_range` (the handler demands a fully empty position: no liquidity, nothing owed) and
  `reposition_liquidity_v2` (withdraw all liquidity, re-range keeping owed amounts, deposit new liquidity).
  Both are modelled here on top of the history machine and shown to keep `SolvInv`, so every history
  interleaving the `HistOp` operations with re-rangings and repositionings stays solvent:

     histReset  s id lo hi            = re-range (`resetPositionRange … keepOwed := true`) a position without liquidity;
                                        owed amounts may be non-zero, so the handler's case is covered with room to spare
     histRepo   s id lo hi newLiq     = modify (−all) ; histReset ; modify (+newLiq)      (all or nothing)
-/
namespace WP.Solv
open WP WP.Gen WP.C05 WP.C10 WP.Path WP.Reach WP.Growth

variable {ts0 : Nat}

def histReset (s : HistState) (id : Nat) (lo hi : Int) : R HistState :=
  match posGet s.positions id with
  | none => .error .NoSuchPosition
  | some pos =>
    match resetPositionRange s.pool.ts pos lo hi true with
    | .error e => .error e
    | .ok p' => .ok { s with positions := posReplace s.positions id p' }

theorem histReset_ok {s s' : HistState} {id : Nat} {lo hi : Int} (h : histReset s id lo hi = .ok s') :
    ∃ pos p', posGet s.positions id = some pos ∧ resetPositionRange s.pool.ts pos lo hi true = .ok p' ∧
      s' = { s with positions := posReplace s.positions id p' } := by
  unfold histReset at h
  split at h
  · cases h
  · rename_i pos hpos
    split at h
    · cases h
    · rename_i p' hp'
      cases h
      exact ⟨pos, p', hpos, hp', rfl⟩

/-- **re-ranging an empty position keeps every invariant** -/
theorem reset_keeps (s s' : HistState) (id : Nat) (lo hi : Int) (I : SolvInv ts0 s)
    (h : histReset s id lo hi = .ok s') : SolvInv ts0 s' := by
  obtain ⟨pos, p', hpos, hp', rfl⟩ := histReset_ok h
  obtain ⟨hemp, _, hval, el, eu, _, _, _, eliq, eoA, eoB⟩ := C18.reset_spec _ _ _ _ _ _ hp'
  have hl0 : pos.liq = 0 := by simpa [isPositionEmpty] using hemp
  have hl1 : p'.liq = 0 := by rw [eliq]; exact hl0
  obtain ⟨u1, u2, hlt, _⟩ := (C18.validate_range_spec s.pool.ts lo hi).mp hval
  have ranges : ∀ kp ∈ posReplace s.positions id p', PosOK s.pool.ts kp.2.lower kp.2.upper := by
    intro kp hk
    rcases Reach.mem_posReplace id p' kp s.positions hk with h1 | h1
    · exact I.geo.pos kp h1
    · rw [h1, el, eu]; exact posOK_of_usable _ _ _ u1 u2 hlt
  -- the claim of the position: the same fees owed, and without liquidity nothing pending and no value
  have solv : ∀ tokA, Solv tokA s → Solv tokA { s with positions := posReplace s.positions id p' } := by
    intro tokA sv
    have hc : claims tokA { s with positions := posReplace s.positions id p' } =
        claims tokA s + ((pfOf tokA s : ℚ) - pfOf tokA s) + (claimOf tokA s p' - claimOf tokA s pos) :=
      claims_replace tokA s _ id pos p' I.ids hpos rfl (fun _ _ _ => rfl)
    have ho : owedQ tokA p' = owedQ tokA pos := by unfold owedQ; rw [eoA, eoB]
    rw [claimOf_zero_liq _ _ _ hl1, claimOf_zero_liq _ _ _ hl0, ho, sub_self, sub_self, add_zero, add_zero] at hc
    exact hc.trans_le sv
  exact
    { -- the bookkeeping sums do not see a position without liquidity, wherever its range lies
      inv := inv_of_sums s _ I.inv rfl rfl rfl
        (fun f _ hz => by
          show sumBy f (posReplace s.positions id p') = _
          rw [C05.sumBy_replace f s.positions id pos p' hpos, hz p' hl1, hz pos hl0]; omega)
        (fun j q hq => (ranges (j, q) (posGet_mem j q _ hq)).1),
      geo := geo_of_same s _ I.geo rfl rfl rfl rfl rfl I.geo.liqU ranges, wf := ⟨I.wf.ticks, I.wf.fgA, I.wf.fgB⟩,
      ids := idsOK_replace _ _ _ I.ids, proto := I.proto, solvA := solv true I.solvA, solvB := solv false I.solvB }

theorem step_keeps (s s' : HistState) (op : HistOp) (outs : List Nat) (I : SolvInv ts0 s) (hop : OpOK ts0 op)
    (h : histStep s op = .ok (s', outs)) : SolvInv ts0 s' := by
  have := apply_keeps_solv s op I hop
  rwa [apply_ok s s' op outs (fun i e t he => by rw [he] at h; cases h) h] at this

/-- `reposition_liquidity_v2` on the history machine: withdraw all (skipped for a position without
    liquidity, as the program does), re-range, deposit `newLiq`; any failing part fails the whole -/
def histRepo (s : HistState) (id : Nat) (lo hi : Int) (newLiq : Nat) : R HistState :=
  match posGet s.positions id with
  | none => .error .NoSuchPosition
  | some pos =>
    let dec : R HistState :=
      if pos.liq = 0 then .ok s
      else match histStep s (.modify id pos.liq false) with
        | .error e => .error e
        | .ok r => .ok r.1
    match dec with
    | .error e => .error e
    | .ok s1 =>
      match histReset s1 id lo hi with
      | .error e => .error e
      | .ok s2 =>
        match histStep s2 (.modify id newLiq true) with
        | .error e => .error e
        | .ok r => .ok r.1

/-- **repositioning keeps every invariant**: both vaults stay solvent, the liquidity bookkeeping stays
    exact, tick index and price stay consistent -/
theorem repo_keeps (s s' : HistState) (id : Nat) (lo hi : Int) (newLiq : Nat) (I : SolvInv ts0 s)
    (h : histRepo s id lo hi newLiq = .ok s') : SolvInv ts0 s' := by
  unfold histRepo at h
  split at h
  · cases h
  · rename_i pos hpos
    simp only [] at h
    split at h
    · cases h
    · rename_i s1 hd
      have i1 : SolvInv ts0 s1 := by
        split at hd
        · cases hd; exact I
        · split at hd
          · cases hd
          · rename_i r hr
            cases hd
            exact step_keeps s r.1 (.modify id pos.liq false) r.2 I trivial hr
      split at h
      · cases h
      · rename_i s2 hr
        have i2 := reset_keeps s1 s2 id lo hi i1 hr
        split at h
        · cases h
        · rename_i r hm
          cases h
          exact step_keeps s2 r.1 (.modify id newLiq true) r.2 i2 trivial hm

inductive ExtOp where
  | base (op : HistOp)
  | reset (id : Nat) (lo hi : Int)
  | repo (id : Nat) (lo hi : Int) (newLiq : Nat)

def extApply (s : HistState) : ExtOp → HistState
  | .base op => histApply s op
  | .reset id lo hi => match histReset s id lo hi with | .ok s' => s' | .error _ => s
  | .repo id lo hi l => match histRepo s id lo hi l with | .ok s' => s' | .error _ => s

def ExtOK (ts : Nat) : ExtOp → Prop
  | .base op => OpOK ts op
  | _ => True

theorem ext_keeps (s : HistState) (op : ExtOp) (I : SolvInv ts0 s) (hop : ExtOK ts0 op) : SolvInv ts0 (extApply s op) := by
  cases op with
  | base o => exact apply_keeps_solv s o I hop
  | reset id lo hi =>
    cases h : histReset s id lo hi with
    | error e => simp only [extApply, h]; exact I
    | ok s' => simp only [extApply, h]; exact reset_keeps s s' id lo hi I h
  | repo id lo hi l =>
    cases h : histRepo s id lo hi l with
    | error e => simp only [extApply, h]; exact I
    | ok s' => simp only [extApply, h]; exact repo_keeps s s' id lo hi l I h

/-- **C01 for histories that also re-range and reposition** -/
theorem reach_solvent_ext (ops : List ExtOp) : ∀ (s : HistState), SolvInv ts0 s → (∀ op ∈ ops, ExtOK ts0 op) →
    SolvInv ts0 (ops.foldl extApply s) :=
  foldl_keeps (SolvInv ts0) (ExtOK ts0) extApply ext_keeps ops

end WP.Solv
