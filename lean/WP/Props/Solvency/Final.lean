import WP.Props.Solvency.Reach
/-
  C01 — the consequences of the solvency invariant, in the words of the property:

    `payable`          each vault holds at least the protocol fees owed plus, for every position, its
                       owed fees, the fee it would be credited if touched now, and the tokens returned
                       by withdrawing all of its liquidity at the current price (all as the integers
                       the program would actually pay)
    `funds_suffice`    none of the four transfers out of a vault (collect protocol fees, collect fees,
                       decrease liquidity, the output leg of a swap) can fail for lack of funds in a
                       reachable state — hence draining in ANY order succeeds, every intermediate
                       state being reachable again
    `no_free_lunch`    over any sequence of swaps (any sizes, directions, modes, limits), the vaults
                       never end with less of one token and no more of the other — so a party that
                       only swaps never ends with more of one token and no less of the other
-/
namespace WP.Solv
open WP WP.Gen WP.C05 WP.C10 WP.Path WP.Reach WP.Growth

variable {ts0 : Nat}

/-! ### non-negativity -/

theorem range_prices (s : HistState) (g : Geo ts0 s) (kp : Nat × PositionD) (hk : kp ∈ s.positions) :
    0 < sp kp.2.lower ∧ sp kp.2.lower ≤ sp kp.2.upper := by
  obtain ⟨a, _, _, d, e⟩ := g.pos kp hk
  have hb := sp_in_bounds kp.2.lower d (by omega)
  exact ⟨Nat.lt_of_lt_of_le min_price_pos hb.1, C09.sp_le _ _ d (by omega) e⟩

theorem sums_nonneg (tokA : Bool) (s : HistState) (g : Geo ts0 s) (ticks : TickMap) (tick : Int) (G price : Nat) :
    0 ≤ sumQ (owedQ tokA) s.positions ∧ 0 ≤ sumQ (pendQ tokA ticks tick G) s.positions ∧
    0 ≤ sumQ (val tokA price) s.positions :=
  ⟨sumQ_nonneg _ _ (fun kp _ => owedQ_nonneg tokA kp.2),
   sumQ_nonneg _ _ (fun kp _ => pendQ_nonneg tokA _ _ _ kp.2),
   sumQ_nonneg _ _ (fun kp hk => val_nonneg tokA _ kp.2 (range_prices s g kp hk).1 (range_prices s g kp hk).2)⟩

/-! ### the amounts the program would actually pay -/

def sumN (f : PositionD → Nat) : List (Nat × PositionD) → Nat
  | [] => 0
  | (_, p) :: r => f p + sumN f r

theorem sumN_cast (f : PositionD → Nat) (l : List (Nat × PositionD)) : ((sumN f l : Nat) : ℚ) = sumQ (fun q => ((f q : Nat) : ℚ)) l := by
  induction l with
  | nil => simp only [sumN, sumQ, Nat.cast_zero]
  | cons hd tl ih => simp only [sumN, sumQ, Nat.cast_add, ih]

/-- the fee credit a position would receive if it were touched now: ⌊L·pend/2^64⌋ (0 on overflow) -/
def creditNow (tokA : Bool) (s : HistState) (q : PositionD) : Nat := mulShiftOr0 q.liq (Reach.pend tokA s q)

/-- the tokens returned by withdrawing ALL liquidity of a position at the current price -/
def withdrawAll (tokA : Bool) (s : HistState) (q : PositionD) : Nat :=
  match calculateLiquidityTokenDeltas s.pool.tick s.pool.price q.lower q.upper (-(q.liq : Int)) with
  | .ok (a, b) => if tokA then a else b
  | .error _ => 0

def owedN (tokA : Bool) (q : PositionD) : Nat := if tokA then q.owedA else q.owedB

theorem withdrawAll_le (tokA : Bool) (s : HistState) (g : Geo ts0 s) (kp : Nat × PositionD) (hk : kp ∈ s.positions) :
    ((withdrawAll tokA s kp.2 : Nat) : ℚ) ≤ val tokA s.pool.price kp.2 := by
  obtain ⟨p1, _, _, p4, p5⟩ := g.pos kp hk
  unfold withdrawAll
  split
  · rename_i a b hd
    exact withdraw_le s.pool.tick s.pool.price kp.2.lower kp.2.upper kp.2.liq a b g.tp p1 p4 p5 hd tokA
  · rw [Nat.cast_zero]
    exact val_nonneg tokA s.pool.price kp.2 (range_prices s g kp hk).1 (range_prices s g kp hk).2

theorem creditNow_le (tokA : Bool) (s : HistState) (q : PositionD) :
    ((creditNow tokA s q : Nat) : ℚ) ≤ pendQ tokA s.ticks s.pool.tick (glob tokA s) q := by
  obtain ⟨c1, _⟩ := C07.credit_le q.liq (Reach.pend tokA s q)
  unfold creditNow pendQ
  rw [le_div_iff₀ two64_pos, ← Nat.cast_mul, ← Nat.cast_mul]
  exact Nat.cast_le.mpr c1

/-- **C01, first sentence, in the integers the program pays**: protocol fees owed + Σ (fees owed + fee
    credited if touched now + tokens returned by withdrawing all liquidity now) ≤ vault balance -/
theorem payable (tokA : Bool) (s : HistState) (I : SolvInv ts0 s) :
    pfOf tokA s + sumN (fun q => owedN tokA q + creditNow tokA s q + withdrawAll tokA s q) s.positions ≤ vaultOf tokA s := by
  have sv := I.solv tokA
  unfold Solv at sv
  rw [claims_eq] at sv
  -- position by position, what the program would pay is at most the exact claim
  have h1 : sumQ (fun q => (((owedN tokA q + creditNow tokA s q + withdrawAll tokA s q : Nat)) : ℚ)) s.positions ≤
      sumQ (claimOf tokA s) s.positions := by
    apply sumQ_le
    intro kp hk
    have c : ((owedN tokA kp.2 : Nat) : ℚ) = owedQ tokA kp.2 := by unfold owedN owedQ; split <;> rfl
    rw [Nat.cast_add, Nat.cast_add, c]
    exact add_le_add (add_le_add (le_refl _) (creditNow_le tokA s kp.2)) (withdrawAll_le tokA s I.geo kp hk)
  have h2 : ((pfOf tokA s + sumN (fun q => owedN tokA q + creditNow tokA s q + withdrawAll tokA s q) s.positions : Nat) : ℚ) ≤
      ((vaultOf tokA s : Nat) : ℚ) := by
    rw [Nat.cast_add, sumN_cast]
    linarith only [h1, sv]
  exact_mod_cast h2

/-! ### no transfer out of a vault fails for lack of funds -/

theorem pf_le_vault (tokA : Bool) (s : HistState) (I : SolvInv ts0 s) : pfOf tokA s ≤ vaultOf tokA s := by
  have sv := I.solv tokA
  unfold Solv claims at sv
  obtain ⟨n1, n2, n3⟩ := sums_nonneg tokA s I.geo s.ticks s.pool.tick (glob tokA s) s.pool.price
  have : (pfOf tokA s : ℚ) ≤ (vaultOf tokA s : ℚ) := by linarith only [sv, n1, n2, n3]
  exact_mod_cast this

theorem member_le_vault (tokA : Bool) (s : HistState) (I : SolvInv ts0 s) (kp : Nat × PositionD) (hk : kp ∈ s.positions) :
    owedQ tokA kp.2 ≤ (vaultOf tokA s : ℚ) ∧ val tokA s.pool.price kp.2 ≤ (vaultOf tokA s : ℚ) := by
  have sv := I.solv tokA
  unfold Solv claims at sv
  obtain ⟨n1, n2, n3⟩ := sums_nonneg tokA s I.geo s.ticks s.pool.tick (glob tokA s) s.pool.price
  have m1 := sumQ_mem_le (owedQ tokA) s.positions kp (fun x _ => owedQ_nonneg tokA x.2) hk
  have m2 := sumQ_mem_le (val tokA s.pool.price) s.positions kp
    (fun x hx => val_nonneg tokA _ x.2 (range_prices s I.geo x hx).1 (range_prices s I.geo x hx).2) hk
  have hpf : (0 : ℚ) ≤ (pfOf tokA s : ℚ) := Nat.cast_nonneg _
  exact ⟨by linarith only [sv, n2, n3, m1, hpf], by linarith only [sv, n1, n2, m2, hpf]⟩

/-- **C01, second sentence**: in a reachable state each of the four guards "transfer amount ≤ vault
    balance" of the history machine holds — collecting protocol fees, collecting a position's fees,
    removing any amount of a position's liquidity, and paying the output of any swap.  Since every
    state reached while draining is reachable again, draining in any order never lacks funds. -/
theorem funds_suffice (s : HistState) (I : SolvInv ts0 s) :
    -- collect protocol fees
    (s.pool.pfA ≤ s.vaultA ∧ s.pool.pfB ≤ s.vaultB) ∧
    -- collect fees of any position
    (∀ id pos, posGet s.positions id = some pos → pos.owedA ≤ s.vaultA ∧ pos.owedB ≤ s.vaultB) ∧
    -- decrease liquidity of any position by any amount the manager accepts
    (∀ id pos (amount : Nat) u da db, posGet s.positions id = some pos →
        calculateModifyLiquidity s.pool pos (s.ticks.get pos.lower) (s.ticks.get pos.upper) (-(amount : Int)) s.now = .ok u →
        calculateLiquidityTokenDeltas s.pool.tick s.pool.price pos.lower pos.upper (-(amount : Int)) = .ok (da, db) →
        da ≤ s.vaultA ∧ db ≤ s.vaultB) ∧
    -- the output of any swap over a loader-built array sequence
    (∀ amount limit isInput aToB arrays u, SeqOK arrays s.pool.ts aToB → amount ≤ U64_MAX →
        swap s.pool s.ticks arrays amount limit isInput aToB s.now s.af SWAP_FUEL = .ok u →
        (if aToB then u.amountB ≤ s.vaultB else u.amountA ≤ s.vaultA)) := by
  refine ⟨⟨pf_le_vault true s I, pf_le_vault false s I⟩, ?_, ?_, ?_⟩
  · intro id pos hp
    have hk := posGet_mem id pos s.positions hp
    exact ⟨Nat.cast_le.mp (member_le_vault true s I (id, pos) hk).1, Nat.cast_le.mp (member_le_vault false s I (id, pos) hk).1⟩
  · intro id pos amount u da db hp hu hd
    have hk := posGet_mem id pos s.positions hp
    obtain ⟨p1, _, _, p4, p5⟩ := I.geo.pos (id, pos) hk
    obtain ⟨_, _, hliq, _⟩ := calcModify_parts _ _ _ _ _ _ _ hu
    have hle : (amount : ℚ) ≤ (pos.liq : ℚ) := by
      have := (addLiquidityDelta_ok hliq).1
      exact_mod_cast (show (amount : Int) ≤ pos.liq by omega)
    have rp := range_prices s I.geo (id, pos) hk
    -- what is returned ≤ the value of `amount` ≤ the value of all the position's liquidity ≤ the vault
    have key : ∀ tokA, ((if tokA then da else db : Nat) : ℚ) ≤ (vaultOf tokA s : ℚ) := fun tokA =>
      le_trans (withdraw_le s.pool.tick s.pool.price pos.lower pos.upper amount da db I.geo.tp p1 p4 p5 hd tokA)
        (le_trans (mul_le_mul_of_nonneg_right hle (unitVal_nonneg tokA s.pool.price _ _ rp.1 rp.2))
          (member_le_vault tokA s I (id, pos) hk).2)
    exact ⟨Nat.cast_le.mp (key true), Nat.cast_le.mp (key false)⟩
  · intro amount limit isInput aToB arrays u hseq hamt hsw
    obtain ⟨_, co, _, _⟩ := swap_core s amount limit isInput aToB arrays u I.inv I.geo I.wf I.proto hseq hamt hsw
    have sv := I.solv (!aToB)
    unfold Solv at sv
    obtain ⟨n1, n2, n3⟩ := sums_nonneg (!aToB) s I.geo u.ticks u.tick (glob (!aToB) s) u.price
    have hpf : (0 : ℚ) ≤ (pfOf (!aToB) s : ℚ) := Nat.cast_nonneg _
    have key : ((if aToB then u.amountB else u.amountA : Nat) : ℚ) ≤ (vaultOf (!aToB) s : ℚ) := by
      linarith only [co, sv, n1, n2, n3, hpf]
    cases aToB
    · exact Nat.cast_le.mp key
    · exact Nat.cast_le.mp key

/-! ### no free lunch -/

/-- liquidity `L` priced at `c ≤ c'` inside a range [l, u]: L·(c − l)/T grows, L·(T/c − T/u) shrinks, and either
    stands still iff `L = 0` or `c = c'` -/
theorem value_pair_arith (L T l u c c' : ℚ) (hL : 0 ≤ L) (hT : 0 < T) (hc0 : 0 < c) (hcc : c ≤ c') :
    L * ((c - l) / T) ≤ L * ((c' - l) / T) ∧ L * (T / c' - T / u) ≤ L * (T / c - T / u) ∧
    (L * ((c - l) / T) = L * ((c' - l) / T) ↔ L * (T / c' - T / u) = L * (T / c - T / u)) := by
  refine ⟨mul_le_mul_of_nonneg_left (div_le_div_of_nonneg_right (sub_le_sub_right hcc l) hT.le) hL,
    mul_le_mul_of_nonneg_left (sub_le_sub_right (div_le_div_of_nonneg_left hT.le hc0 hcc) _) hL, ?_⟩
  rw [mul_eq_mul_left_iff, mul_eq_mul_left_iff, div_left_inj' hT.ne', sub_left_inj, sub_left_inj,
    div_eq_div_iff (lt_of_lt_of_le hc0 hcc).ne' hc0.ne', mul_right_inj' hT.ne']

theorem val_pair (p p' : Nat) (q : PositionD) (h0 : 0 < sp q.lower) (hlu : sp q.lower ≤ sp q.upper) (h : p ≤ p') :
    val false p q ≤ val false p' q ∧ val true p' q ≤ val true p q ∧
    (val false p q = val false p' q ↔ val true p' q = val true p q) := by
  have hc : (clampP p (sp q.lower) (sp q.upper) : ℚ) ≤ (clampP p' (sp q.lower) (sp q.upper) : ℚ) :=
    Nat.cast_le.mpr (show clampP p (sp q.lower) (sp q.upper) ≤ clampP p' (sp q.lower) (sp q.upper) by unfold clampP; omega)
  have hc0 : (0 : ℚ) < (clampP p (sp q.lower) (sp q.upper) : ℚ) :=
    Nat.cast_pos.mpr (Nat.lt_of_lt_of_le h0 (clamp_bounds p _ _ hlu).1)
  unfold val unitVal
  simp only [Bool.false_eq_true, if_false, if_true]
  exact value_pair_arith _ _ _ _ _ _ (Nat.cast_nonneg _) two64_pos hc0 hc

theorem total_val_pair (ps : List (Nat × PositionD)) (p p' : Nat) (h : p ≤ p')
    (hr : ∀ kp ∈ ps, 0 < sp kp.2.lower ∧ sp kp.2.lower ≤ sp kp.2.upper) :
    sumQ (val false p) ps ≤ sumQ (val false p') ps ∧ sumQ (val true p') ps ≤ sumQ (val true p) ps ∧
    (sumQ (val false p') ps = sumQ (val false p) ps ↔ sumQ (val true p') ps = sumQ (val true p) ps) := by
  have each := fun kp hk => val_pair p p' kp.2 (hr kp hk).1 (hr kp hk).2 h
  refine ⟨sumQ_le _ _ ps fun kp hk => (each kp hk).1, sumQ_le _ _ ps fun kp hk => (each kp hk).2.1, ?_⟩
  rw [eq_comm, sumQ_eq_iff _ _ ps fun kp hk => (each kp hk).1, sumQ_eq_iff _ _ ps fun kp hk => (each kp hk).2.1]
  exact forall₂_congr fun kp hk => (each kp hk).2.2

def IsSwap : HistOp → Prop
  | .swap _ _ _ _ _ => True
  | _ => False

theorem swap_apply_slack (s : HistState) (op : HistOp) (I : SolvInv ts0 s) (hop : OpOK ts0 op) (hsw : IsSwap op) :
    slack true s ≤ slack true (histApply s op) ∧ slack false s ≤ slack false (histApply s op) ∧
    (histApply s op).positions = s.positions := by
  refine histApply_ind (fun st => slack true s ≤ slack true st ∧ slack false s ≤ slack false st ∧ st.positions = s.positions)
    s op ⟨le_refl _, le_refl _, rfl⟩ (fun i e t he => by rw [he] at hsw; exact hsw.elim) ?_
  intro s' outs h
  cases op
  case swap amount limit isInput aToB arrays =>
    rw [OpOK, ← I.geo.spacing] at hop
    exact swap_slack_mono s s' amount limit isInput aToB arrays outs I.inv I.geo I.wf I.proto hop.1 hop.2 h
  all_goals exact hsw.elim

theorem swaps_slack (ops : List HistOp) : ∀ (s : HistState), SolvInv ts0 s → (∀ op ∈ ops, OpOK ts0 op ∧ IsSwap op) →
    slack true s ≤ slack true (ops.foldl histApply s) ∧ slack false s ≤ slack false (ops.foldl histApply s) ∧
    (ops.foldl histApply s).positions = s.positions := by
  intro s I hops
  refine (foldl_keeps (fun st => SolvInv ts0 st ∧ slack true s ≤ slack true st ∧ slack false s ≤ slack false st ∧ st.positions = s.positions)
    (fun op => OpOK ts0 op ∧ IsSwap op) histApply ?_ ops s ⟨I, le_refl _, le_refl _, rfl⟩ hops).2
  intro st op ⟨J, a, b, c⟩ ⟨hop, hsw⟩
  obtain ⟨a', b', c'⟩ := swap_apply_slack st op J hop hsw
  exact ⟨apply_keeps_solv st op J hop, le_trans a a', le_trans b b', c'.trans c⟩

/-- **C01, third sentence**: after ANY sequence of swaps from a reachable state the vaults do not hold
    less of one token and no more of the other.  All tokens leaving or entering the vaults in swaps go
    to or come from the swapping party, so that party never ends with more of one token and no less
    of the other. -/
theorem no_free_lunch (ops : List HistOp) (s : HistState) (I : SolvInv ts0 s) (hops : ∀ op ∈ ops, OpOK ts0 op ∧ IsSwap op) :
    ¬ ((ops.foldl histApply s).vaultA ≤ s.vaultA ∧ (ops.foldl histApply s).vaultB ≤ s.vaultB ∧
       ((ops.foldl histApply s).vaultA < s.vaultA ∨ (ops.foldl histApply s).vaultB < s.vaultB)) := by
  obtain ⟨sa, sb, hps⟩ := swaps_slack ops s I hops
  intro ⟨ha, hb, hstrict⟩
  unfold slack vaultOf at sa sb
  simp only [if_true, Bool.false_eq_true, if_false] at sa sb
  rw [hps] at sa sb
  have ha' : (((ops.foldl histApply s).vaultA : Nat) : ℚ) ≤ (s.vaultA : ℚ) := Nat.cast_le.mpr ha
  have hb' : (((ops.foldl histApply s).vaultB : Nat) : ℚ) ≤ (s.vaultB : ℚ) := Nat.cast_le.mpr hb
  -- neither vault grew, so neither total value grew; one of them cannot shrink, so neither moved
  have heq : sumQ (val true (ops.foldl histApply s).pool.price) s.positions = sumQ (val true s.pool.price) s.positions ∧
      sumQ (val false (ops.foldl histApply s).pool.price) s.positions = sumQ (val false s.pool.price) s.positions := by
    have hr := fun kp hk => range_prices s I.geo kp hk
    rcases Nat.le_total s.pool.price (ops.foldl histApply s).pool.price with hp | hp
    · obtain ⟨mB, _, e⟩ := total_val_pair s.positions _ _ hp hr
      have eqB := le_antisymm (by linarith only [sb, hb']) mB
      exact ⟨e.mp eqB, eqB⟩
    · obtain ⟨_, mA, e⟩ := total_val_pair s.positions _ _ hp hr
      have eqA := le_antisymm mA (by linarith only [sa, ha'])
      exact ⟨eqA.symm, (e.mpr eqA).symm⟩
  rw [heq.1] at sa
  rw [heq.2] at sb
  rcases hstrict with h | h
  · have : (((ops.foldl histApply s).vaultA : Nat) : ℚ) < (s.vaultA : ℚ) := Nat.cast_lt.mpr h
    linarith only [this, sa]
  · have : (((ops.foldl histApply s).vaultB : Nat) : ℚ) < (s.vaultB : ℚ) := Nat.cast_lt.mpr h
    linarith only [this, sb]

end WP.Solv
