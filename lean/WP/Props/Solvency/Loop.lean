import WP.Props.Solvency.Step
/-
  C01 — solvency along the whole swap.

  Loop invariant (`SolvLoop`), for constants `Kin`, `Kout` fixed by the state before the swap:
     Kin  + protocol fee so far + Σ pending(in)  + Σ value(in)            ≤ input taken so far
     Kout +                        Σ pending(out) + Σ value(out) + output paid so far ≤ 0
  and, for the no-free-lunch clause, the same without fees (Vin, Vout = Σ value before the swap):
     Σ value(in)  ≤ Vin + input taken so far          Σ value(out) + output paid so far ≤ Vout
  With Kin = −(Σ pending(in) + Σ value(in)) before the swap, and the same for the output token (the choice
  of `swap_core`), the first two say: whatever the swap has taken so far covers everything it has added
  to the claims on the input vault, and what it has paid out was covered by the shrinkage of the
  claims on the output vault.
-/
namespace WP.Solv
open WP WP.Gen WP.C05 WP.C10 WP.Path WP.Reach WP.Growth

def inSoFar (c : SwapCtx) (amount : Nat) (s : SwapSt) : ℚ :=
  if c.isInput then (amount : ℚ) - (s.remaining : ℚ) else (s.calculated : ℚ)
def outSoFar (c : SwapCtx) (amount : Nat) (s : SwapSt) : ℚ :=
  if c.isInput then (s.calculated : ℚ) else (amount : ℚ) - (s.remaining : ℚ)

structure SolvLoop (c : SwapCtx) (ps : List (Nat × PositionD)) (amount : Nat) (Kin Kout Vin Vout : ℚ) (s : SwapSt) : Prop where
  wf : TicksWF s.ticks
  fg : s.fgIn < TWO128
  rem : s.remaining ≤ amount
  inn : Kin + (s.protoFee : ℚ) + sumQ (pendQ c.aToB s.ticks s.tick s.fgIn) ps + sumQ (val c.aToB s.price) ps ≤ inSoFar c amount s
  out : Kout + sumQ (pendQ (!c.aToB) s.ticks s.tick (globOther c)) ps + sumQ (val (!c.aToB) s.price) ps + outSoFar c amount s ≤ 0
  vin : sumQ (val c.aToB s.price) ps ≤ Vin + inSoFar c amount s
  vout : sumQ (val (!c.aToB) s.price) ps + outSoFar c amount s ≤ Vout

theorem min_price_pos : 0 < MIN_SQRT_PRICE_X64 := by decide

theorem soFar_step (c : SwapCtx) (amount : Nat) (s s' : SwapSt) (ain aout fee : Nat)
    (h : if c.isInput then s.remaining = s'.remaining + ain + fee ∧ s'.calculated = s.calculated + aout
         else s.remaining = s'.remaining + aout ∧ s'.calculated = s.calculated + ain + fee) :
    inSoFar c amount s' = inSoFar c amount s + (ain : ℚ) + (fee : ℚ) ∧
    outSoFar c amount s' = outSoFar c amount s + (aout : ℚ) ∧ s'.remaining ≤ s.remaining := by
  unfold inSoFar outSoFar
  revert h
  cases c.isInput
  all_goals
    simp only [Bool.false_eq_true, if_false, if_true]
    intro ⟨a, b⟩
    rw [a, b]
    push_cast
    exact ⟨by ring, by ring, by omega⟩

theorem solv_step (c : SwapCtx) (ps : List (Nat × PositionD)) (p0 amount : Nat) (Kin Kout Vin Vout : ℚ) (s s' : SwapSt) (nai : Nat) (nti : Int)
    (ok : CtxOK c) (hp : c.protoRate ≤ PROTOCOL_FEE_RATE_MUL_VALUE) (hGo : globOther c < TWO128)
    (P : Path c ps p0 s) (A : Aim c s nai nti) (sh : Shape c s s' nti) (P' : Path c ps p0 s')
    (hstep : swapStep c s nai nti (sp nti) (if c.aToB then max c.limit (sp nti) else min c.limit (sp nti)) = .ok s')
    (q : SolvLoop c ps amount Kin Kout Vin Vout s) : SolvLoop c ps amount Kin Kout Vin Vout s' := by
  obtain ⟨sc, hsc, hamt, hfs, hpf, hfg', hprice⟩ := swapStep_all c s s' nai nti _ _ hstep
  obtain ⟨wfS, hgeo⟩ := step_geom c ps p0 s nai nti ok P A sc hsc
  obtain ⟨d, delta, e1, e2, e3, e4⟩ := fees_split sc.feeAmount c.protoRate s.liq s.protoFee s.fgIn hp q.fg
  have hd : s'.fgIn = wadd s.fgIn d := by rw [hfg', e1]
  obtain ⟨wf', _⟩ := step_inside c ps p0 s s' nti d hGo P sh q.wf q.fg hd
  obtain ⟨hpin, hpout⟩ := step_pend c ps p0 s s' nti d hGo P sh q.wf q.fg hd
  have hq := two64_pos
  have hp0 : 0 < s.price := Nat.lt_of_lt_of_le min_price_pos wfS.cur_lo
  have hp1 : 0 < sc.nextPrice := by
    have := (TP_price_bounds _ _ P'.tp).1
    rw [hprice] at this
    exact Nat.lt_of_lt_of_le min_price_pos this
  -- the value of all positions moves with the in-range liquidity, for both tokens
  obtain ⟨mv, hdirOk⟩ : (∀ tokA, sumQ (val tokA sc.nextPrice) ps - sumQ (val tokA s.price) ps = (s.liq : ℚ) * moveTerm tokA s.price sc.nextPrice) ∧
      (if c.aToB then sc.nextPrice ≤ s.price else s.price ≤ sc.nextPrice) := by
    have hliq : (s.liq : ℚ) = ((sumBy (inRangeLiq s.tick) ps : Int) : ℚ) := by rw [← P.liq, Int.cast_natCast]
    rw [hliq]
    by_cases hdir : c.aToB = true
    · rw [if_pos hdir] at hgeo ⊢
      exact ⟨fun tokA => sum_val_move tokA _ _ _ ps (classify_down c ps p0 s nai nti _ hdir P A hgeo.1 hgeo.2), hgeo.2⟩
    · rw [if_neg hdir] at hgeo ⊢
      exact ⟨fun tokA => sum_val_move tokA _ _ _ ps (classify_up c ps p0 s nai nti _ (Bool.eq_false_iff.mpr hdir) P A hgeo.1 hgeo.2), hgeo.1⟩
  have mvIn := mv c.aToB
  have mvOut := mv (!c.aToB)
  obtain ⟨am1, am2⟩ := amounts_vs_move c.aToB s.liq s.price sc.nextPrice hp0 hp1 hdirOk
  have hin := C02.step_in_exact _ _ _ _ _ _ _ sc wfS hsc
  have hout := C02.step_out_exact _ _ _ _ _ _ _ sc wfS hsc
  have hout2 : sc.amountOut ≤ C02.roundTok (!c.aToB) s.liq (C02.lo' s.price sc.nextPrice) (C02.hi' s.price sc.nextPrice) false := by
    rw [hout]; split
    · exact le_refl _
    · exact Nat.min_le_right _ _
  rw [← hin] at am1
  have am2' : (sc.amountOut : ℚ) ≤ -((s.liq : ℚ) * moveTerm (!c.aToB) s.price sc.nextPrice) :=
    le_trans (Nat.cast_le.mpr hout2) am2
  have hfee1 : (s'.protoFee : ℚ) ≤ (s.protoFee : ℚ) + (delta : ℚ) := by rw [hpf]; exact_mod_cast e2
  have hfee2 : (s.liq : ℚ) * (d : ℚ) / (TWO64 : ℚ) ≤ (sc.feeAmount : ℚ) - (delta : ℚ) := by
    rw [div_le_iff₀ hq, mul_comm, ← Nat.cast_sub e3, ← Nat.cast_mul, ← Nat.cast_mul]
    exact Nat.cast_le.mpr e4
  obtain ⟨hin', hout', hrem⟩ := soFar_step c amount s s' _ _ _ hamt
  have qi := q.inn
  have qo := q.out
  have qvi := q.vin
  have qvo := q.vout
  have hfee0 : (0 : ℚ) ≤ (sc.feeAmount : ℚ) := Nat.cast_nonneg _
  exact
    { wf := wf', fg := by rw [hd]; exact C07.wadd_lt _ _, rem := Nat.le_trans hrem q.rem,
      inn := by rw [hin', hprice]; linarith only [qi, hpin, mvIn, am1, hfee1, hfee2],
      out := by rw [hout', hprice]; linarith only [qo, hpout, mvOut, am2'],
      vin := by rw [hin', hprice]; linarith only [qvi, mvIn, am1, hfee0],
      vout := by rw [hout', hprice]; linarith only [qvo, mvOut, am2'] }

theorem solv_loop (c : SwapCtx) (ps : List (Nat × PositionD)) (p0 amount : Nat) (Kin Kout Vin Vout : ℚ) (ok : CtxOK c)
    (hp : c.protoRate ≤ PROTOCOL_FEE_RATE_MUL_VALUE) (hGo : globOther c < TWO128)
    (fuel : Nat) (s s' : SwapSt) (P : Path c ps p0 s) (q : SolvLoop c ps amount Kin Kout Vin Vout s)
    (h : swapLoop c fuel s none = .ok s') : Path c ps p0 s' ∧ SolvLoop c ps amount Kin Kout Vin Vout s' :=
  loop_path_step c ps p0 ok (SolvLoop c ps amount Kin Kout Vin Vout)
    (fun a b nai nti Pa A sh Pb hst qa => solv_step c ps p0 amount Kin Kout Vin Vout a b nai nti ok hp hGo Pa A sh Pb hst qa)
    fuel s none s' P q (fun _ _ _ _ he => by cases he) h

end WP.Solv
