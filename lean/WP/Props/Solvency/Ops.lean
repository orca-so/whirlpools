import WP.Props.Solvency.Swap
import WP.Props.C08
import WP.Props.HistStep
/-
  C01 — solvency: the operations other than the swap.

    open position          adds a claim of 0
    increase liquidity     vault += ⌈value of ΔL⌉ ≥ value of ΔL; pending fees of the position → owed (floor)
    decrease liquidity     vault −= ⌊value of ΔL⌋ ≤ value of ΔL;           "
    update fees            pending fees of the position → owed (floor)
    collect fees           vault −= owed, owed := 0
    collect protocol fees  vault −= protocol fees owed, := 0
    clock, rewards         do not touch the token vaults or any claim on them
  Other positions' claims do not move: their fee growth inside is untouched by a liquidity change of
  another position (`frame_modify`), even when ticks are initialized or removed.
-/
namespace WP.Solv
open WP WP.Gen WP.C05 WP.C10 WP.Path WP.Reach WP.Growth

/-! ### liquidity token deltas against the exact value -/

/-- deposits cost at least, withdrawals return at most, the exact value of the liquidity moved -/
theorem deltas_vs_val (tick : Int) (price : Nat) (lower upper : Int) (delta : Int) (da db : Nat)
    (tp : TP tick price) (hlu : lower < upper) (hl : MIN_TICK_INDEX ≤ lower) (hu : upper ≤ MAX_TICK_INDEX)
    (h : calculateLiquidityTokenDeltas tick price lower upper delta = .ok (da, db)) :
    if delta > 0 then
      (delta.natAbs : ℚ) * unitVal true price (sp lower) (sp upper) ≤ (da : ℚ) ∧
      (delta.natAbs : ℚ) * unitVal false price (sp lower) (sp upper) ≤ (db : ℚ)
    else
      (da : ℚ) ≤ (delta.natAbs : ℚ) * unitVal true price (sp lower) (sp upper) ∧
      (db : ℚ) ≤ (delta.natAbs : ℚ) * unitVal false price (sp lower) (sp upper) := by
  have hl0 : 0 < sp lower := Nat.lt_of_lt_of_le min_price_pos (sp_in_bounds lower hl (by omega)).1
  have hu0 : 0 < sp upper := Nat.lt_of_lt_of_le min_price_pos (sp_in_bounds upper (by omega) hu).1
  have hp0 : 0 < price := Nat.lt_of_lt_of_le min_price_pos (TP_price_bounds _ _ tp).1
  have hspl : sp lower ≤ sp upper := C09.sp_le _ _ hl (by omega) hu
  obtain ⟨_, hs⟩ := C08.deltas_spec tick price lower upper delta da db hl0 hu0 hp0 h
  simp only [C08.costA, C08.costB] at hs
  -- both tokens in the manager's rounding direction `up`; the token not moved is exact (0 against 0)
  generalize hup : decide (delta > 0) = up at hs
  have zero : if up then (delta.natAbs : ℚ) * 0 ≤ ((0 : Nat) : ℚ) else ((0 : Nat) : ℚ) ≤ (delta.natAbs : ℚ) * 0 := by
    rw [mul_zero, Nat.cast_zero, ite_self]
  have a1 := C02.lo_hi_of_le hspl
  have key : (if up then (delta.natAbs : ℚ) * unitVal true price (sp lower) (sp upper) ≤ (da : ℚ)
       else (da : ℚ) ≤ (delta.natAbs : ℚ) * unitVal true price (sp lower) (sp upper)) ∧
      (if up then (delta.natAbs : ℚ) * unitVal false price (sp lower) (sp upper) ≤ (db : ℚ)
       else (db : ℚ) ≤ (delta.natAbs : ℚ) * unitVal false price (sp lower) (sp upper)) := by
    by_cases c1 : tick < lower
    · have hp : price ≤ sp lower := TP_le_of_lt _ _ _ tp (by omega) c1
      obtain ⟨va, vb⟩ := unitVal_below price (sp lower) (sp upper) hp
      rw [if_pos c1, a1.1, a1.2] at hs
      rw [hs.1, hs.2, va, vb]
      exact ⟨roundA_vs _ _ _ hl0 hspl up, zero⟩
    · by_cases c2 : tick < upper
      · have hp1 : sp lower ≤ price := TP_le_of_le _ _ _ tp hl (by omega)
        have hp2 : price ≤ sp upper := TP_le_of_lt _ _ _ tp hu c2
        obtain ⟨va, vb⟩ := unitVal_mid price (sp lower) (sp upper) hp1 hp2
        have a2 := C02.lo_hi_of_le hp2
        have a3 := C02.lo_hi_of_le hp1
        rw [if_neg c1, if_pos c2, a2.1, a2.2, a3.1, a3.2] at hs
        rw [hs.1, hs.2, va, vb]
        exact ⟨roundA_vs _ _ _ hp0 hp2 up, roundB_vs _ _ _ hp1 up⟩
      · have hp : sp upper ≤ price := TP_le_of_le _ _ _ tp (by omega) (by omega)
        obtain ⟨va, vb⟩ := unitVal_above price (sp lower) (sp upper) hp hspl
        rw [if_neg c1, if_neg c2, a1.1, a1.2] at hs
        rw [hs.1, hs.2, va, vb]
        exact ⟨zero, roundB_vs _ _ _ hspl up⟩
  cases up
  · rw [if_neg (of_decide_eq_false hup)]; exact key
  · rw [if_pos (of_decide_eq_true hup)]; exact key

theorem deposit_ge (tick : Int) (price : Nat) (lower upper : Int) (amount da db : Nat)
    (tp : TP tick price) (hlu : lower < upper) (hl : MIN_TICK_INDEX ≤ lower) (hu : upper ≤ MAX_TICK_INDEX) (ha : amount ≠ 0)
    (h : calculateLiquidityTokenDeltas tick price lower upper (amount : Int) = .ok (da, db)) (tokA : Bool) :
    (amount : ℚ) * unitVal tokA price (sp lower) (sp upper) ≤ ((if tokA then da else db : Nat) : ℚ) := by
  have dv := deltas_vs_val tick price lower upper _ da db tp hlu hl hu h
  rw [if_pos (by omega), Int.natAbs_natCast] at dv
  cases tokA
  · exact dv.2
  · exact dv.1

theorem withdraw_le (tick : Int) (price : Nat) (lower upper : Int) (amount da db : Nat)
    (tp : TP tick price) (hlu : lower < upper) (hl : MIN_TICK_INDEX ≤ lower) (hu : upper ≤ MAX_TICK_INDEX)
    (h : calculateLiquidityTokenDeltas tick price lower upper (-(amount : Int)) = .ok (da, db)) (tokA : Bool) :
    ((if tokA then da else db : Nat) : ℚ) ≤ (amount : ℚ) * unitVal tokA price (sp lower) (sp upper) := by
  have dv := deltas_vs_val tick price lower upper _ da db tp hlu hl hu h
  rw [if_neg (by omega), Int.natAbs_neg, Int.natAbs_natCast] at dv
  cases tokA
  · exact dv.2
  · exact dv.1

/-! ### the growth inside a position's own range, read before and after its ticks are updated -/

/-- `growthInside` with possibly uninitialized bounds equals the initialized-bound formula on the
    values the new-tick convention would store -/
theorem growthInside_conv (cur : Int) (lo up : TickData) (loIdx upIdx : Int) (loOut upOut glob : Nat) (hg : glob < TWO128) :
    growthInside cur lo loIdx loOut up upIdx upOut glob =
      C07.insideInit cur loIdx (if lo.initialized then loOut else if cur ≥ loIdx then glob else 0)
        upIdx (if up.initialized then upOut else if cur ≥ upIdx then glob else 0) glob := by
  -- an uninitialized lower bound counts everything as below it (`wsub glob 0 = glob`),
  -- an uninitialized upper bound nothing as above it (`wsub glob glob = 0`)
  have below : (if cur < loIdx then wsub glob (if cur ≥ loIdx then glob else 0) else (if cur ≥ loIdx then glob else 0)) = glob := by
    by_cases a : cur < loIdx
    · rw [if_pos a, if_neg (by omega), C07.wsub_zero _ hg]
    · rw [if_neg a, if_pos (by omega)]
  have above : (if cur < upIdx then (if cur ≥ upIdx then glob else 0) else wsub glob (if cur ≥ upIdx then glob else 0)) = 0 := by
    by_cases b : cur < upIdx
    · rw [if_pos b, if_neg (by omega)]
    · rw [if_neg b, if_pos (by omega), C07.wsub_self _ hg]
  unfold growthInside C07.insideInit
  cases lo.initialized <;> cases up.initialized <;>
    simp only [Bool.not_true, Bool.not_false, Bool.false_eq_true, if_true, if_false, below, above]

theorem tickModify_fo (tokA : Bool) (t t' : TickData) (tickIndex cur : Int) (fgA fgB : Nat) (rw : List RewardInfo) (delta : Int) (isUpper : Bool)
    (hinit : t.initialized = decide (t.gross > 0)) (h1 : t'.gross ≠ 0)
    (h : nextTickModifyLiquidityUpdate t tickIndex cur fgA fgB rw delta isUpper = .ok t') :
    fo tokA t' = if t.initialized then fo tokA t else if cur ≥ tickIndex then (if tokA then fgA else fgB) else 0 := by
  by_cases h0 : t.gross = 0
  · have hi : t.initialized = false := by rw [hinit, h0]; rfl
    rw [hi, if_neg Bool.false_ne_true]
    rcases tickModify_cases h with ⟨_, rfl⟩ | ⟨_, gross, _, ⟨_, rfl⟩ | ⟨_, net, _, rfl⟩⟩
    · exact absurd h0 h1
    · exact absurd rfl h1
    · unfold fo
      cases tokA
      · simp only [Bool.false_eq_true, if_false, if_pos h0]
      · simp only [if_true, if_pos h0]
  · have hi : t.initialized = true := by rw [hinit]; exact decide_eq_true (by omega)
    obtain ⟨a, b⟩ := tickModify_keeps t t' tickIndex cur fgA fgB rw delta isUpper h0 h1 h
    unfold fo
    rw [hi, if_pos rfl, a, b]

/-! ### the pieces of a liquidity change and of a fee update -/

structure ModParts (s s' : HistState) (id : Nat) (delta : Int) (pos : PositionD) (u : ModifyUpdate) : Prop where
  hpos : posGet s.positions id = some pos
  hu : calculateModifyLiquidity s.pool pos (s.ticks.get pos.lower) (s.ticks.get pos.upper) delta s.now = .ok u
  tick : s'.pool.tick = s.pool.tick
  price : s'.pool.price = s.pool.price
  fgA : s'.pool.fgA = s.pool.fgA
  fgB : s'.pool.fgB = s.pool.fgB
  pfA : s'.pool.pfA = s.pool.pfA
  pfB : s'.pool.pfB = s.pool.pfB
  proto : s'.pool.protoRate = s.pool.protoRate
  positions : s'.positions = posReplace s.positions id u.position

theorem ModParts.glob {s s' : HistState} {id : Nat} {delta : Int} {pos : PositionD} {u : ModifyUpdate}
    (mp : ModParts s s' id delta pos u) (tokA : Bool) : glob tokA s' = glob tokA s := by
  unfold Reach.glob; rw [mp.fgA, mp.fgB]

theorem modify_parts (s s' : HistState) (id amount : Nat) (positive : Bool) (outs : List Nat)
    (h : histStep s (.modify id amount positive) = .ok (s', outs)) :
    ∃ pos u da db, ModParts s s' id (if positive then (amount : Int) else -(amount : Int)) pos u ∧ amount ≠ 0 ∧
      s'.ticks = (s.ticks.set pos.lower u.tickLower).set pos.upper u.tickUpper ∧
      calculateLiquidityTokenDeltas s.pool.tick s.pool.price pos.lower pos.upper (if positive then (amount : Int) else -(amount : Int)) = .ok (da, db) ∧
      ∀ tokA, if positive then vaultOf tokA s' = vaultOf tokA s + (if tokA then da else db)
        else (if tokA then da else db) ≤ vaultOf tokA s ∧ vaultOf tokA s' = vaultOf tokA s - (if tokA then da else db) := by
  obtain ⟨hamt, _, pos, u, da, db, hpos, hu, hd, hv, rfl, _⟩ := histStep_modify_ok h
  refine ⟨pos, u, da, db, ⟨hpos, hu, rfl, rfl, rfl, rfl, rfl, rfl, rfl, rfl⟩, hamt, rfl, hd, fun tokA => ?_⟩
  cases positive
  · obtain ⟨va, vb⟩ := hv rfl
    cases tokA
    · exact ⟨vb, rfl⟩
    · exact ⟨va, rfl⟩
  · cases tokA <;> rfl

theorem upd_parts (s s' : HistState) (id : Nat) (outs : List Nat)
    (h : histStep s (.upd id) = .ok (s', outs)) :
    ∃ pos u, ModParts s s' id 0 pos u ∧ s'.ticks = s.ticks ∧ ∀ tokA, vaultOf tokA s' = vaultOf tokA s := by
  obtain ⟨pos, u, hpos, hu, rfl, _⟩ := histStep_upd_ok h
  exact ⟨pos, u, ⟨hpos, hu, rfl, rfl, rfl, rfl, rfl, rfl, rfl, rfl⟩, rfl, fun _ => rfl⟩

theorem wadd64_cast_le (a b : Nat) : ((wadd64 a b : Nat) : ℚ) ≤ (a : ℚ) + (b : ℚ) := by
  exact_mod_cast (Nat.mod_le _ _ : wadd64 a b ≤ a + b)

/-- per token: the new checkpoint is what the program calls "fee growth inside"; the u64 owed counter
    wraps, so it grows by at most the credit -/
theorem calcModify_parts (p : PoolD) (pos : PositionD) (tl tu : TickData) (delta : Int) (now : Nat) (u : ModifyUpdate)
    (h : calculateModifyLiquidity p pos tl tu delta now = .ok u) :
    nextTickModifyLiquidityUpdate tl pos.lower p.tick p.fgA p.fgB u.rewards delta false = .ok u.tickLower ∧
    nextTickModifyLiquidityUpdate tu pos.upper p.tick p.fgA p.fgB u.rewards delta true = .ok u.tickUpper ∧
    addLiquidityDelta pos.liq delta = .ok u.position.liq ∧
    u.position.lower = pos.lower ∧ u.position.upper = pos.upper ∧
    ∀ tokA, cp tokA u.position = growthInside p.tick tl pos.lower (fo tokA tl) tu pos.upper (fo tokA tu) (if tokA then p.fgA else p.fgB) ∧
      owedQ tokA u.position ≤ owedQ tokA pos + ((mulShiftOr0 pos.liq (wsub (cp tokA u.position) (cp tokA pos)) : Nat) : ℚ) := by
  obtain ⟨_, _, _, htl, htu, hpu⟩ := calcModify_ok h
  obtain ⟨liq, hl, hp⟩ := nextPositionUpdate_ok hpu
  rw [hp]
  refine ⟨htl, htu, hl, rfl, rfl, fun tokA => ?_⟩
  unfold cp owedQ fo nextFeeGrowthsInside
  cases tokA
  · simp only [Bool.false_eq_true, if_false]
    exact ⟨trivial, wadd64_cast_le _ _⟩
  · simp only [if_true]
    exact ⟨trivial, wadd64_cast_le _ _⟩

/-! ### the touched position: pending fees become owed fees (rounded down), the checkpoint catches up -/

/-- the position touched by a liquidity change / fee update: what it is owed afterwards plus what is
    pending afterwards is at most what it was owed plus what was pending (the credit is a floor, the
    u64 owed counter and the u128 product only ever lose), and the pending part afterwards is zero -/
theorem self_claim {ts0 : Nat} (tokA : Bool) (s s' : HistState) (id : Nat) (delta : Int) (pos : PositionD) (u : ModifyUpdate)
    (inv : Inv s) (g : Geo ts0 s) (w : Wf s) (inv' : Inv s') (mp : ModParts s s' id delta pos u)
    (hget : ∀ t, s'.ticks.get t = ((s.ticks.set pos.lower u.tickLower).set pos.upper u.tickUpper).get t) :
    owedQ tokA u.position + pendQ tokA s'.ticks s'.pool.tick (glob tokA s') u.position ≤
      owedQ tokA pos + pendQ tokA s.ticks s.pool.tick (glob tokA s) pos ∧
    addLiquidityDelta pos.liq delta = .ok u.position.liq ∧ u.position.lower = pos.lower ∧ u.position.upper = pos.upper := by
  obtain ⟨htl, htu, hliq, el, eu, htok⟩ := calcModify_parts _ _ _ _ _ _ _ mp.hu
  refine ⟨?_, hliq, el, eu⟩
  have hcp : cp tokA u.position = growthInside s.pool.tick (s.ticks.get pos.lower) pos.lower (fo tokA (s.ticks.get pos.lower))
      (s.ticks.get pos.upper) pos.upper (fo tokA (s.ticks.get pos.upper)) (glob tokA s) := (htok tokA).1
  have hlu : pos.lower < pos.upper := inv.ordered id pos mp.hpos
  have hgl := glob_lt w tokA
  -- (1) the credit is at most the pending amount
  have h1 : ((mulShiftOr0 pos.liq (wsub (cp tokA u.position) (cp tokA pos)) : Nat) : ℚ) ≤ pendQ tokA s.ticks s.pool.tick (glob tokA s) pos := by
    obtain ⟨c1, c2⟩ := C07.credit_le pos.liq (wsub (cp tokA u.position) (cp tokA pos))
    by_cases hl : pos.liq = 0
    · rw [c2 hl, pendQ_zero_liq _ _ _ _ _ hl, Nat.cast_zero]
    · obtain ⟨il, ih⟩ := bounds_init s id pos inv g mp.hpos (by omega)
      have e : cp tokA u.position = inside tokA s.ticks s.pool.tick pos.lower pos.upper (glob tokA s) := by
        rw [hcp, C07.growthInside_init _ _ _ _ _ _ _ _ il ih]; rfl
      unfold pendQ pendAt
      rw [← e, le_div_iff₀ two64_pos, ← Nat.cast_mul, ← Nat.cast_mul]
      exact Nat.cast_le.mpr c1
  -- (2) nothing is pending afterwards: the ticks now store what the new-tick convention prescribes,
  --     so the growth inside read from them is the new checkpoint
  have h2 : pendQ tokA s'.ticks s'.pool.tick (glob tokA s') u.position = 0 := by
    by_cases hl : u.position.liq = 0
    · exact pendQ_zero_liq _ _ _ _ _ hl
    · have hpos' : posGet s'.positions id = some u.position := by
        rw [mp.positions, C05.posGet_replace _ _ _ _ _ mp.hpos, if_pos rfl]
      obtain ⟨bl, bh, _⟩ := bound_of_pos id u.position (by omega) (by rw [el, eu]; exact hlu) s'.positions hpos'
      rw [el] at bl; rw [eu] at bh
      have gl := inv'.gross pos.lower
      have gh := inv'.gross pos.upper
      unfold Bound at bl bh
      have e1 : s'.ticks.get pos.lower = u.tickLower := by
        rw [hget, C05.tick_get_set, if_neg (by omega), C05.tick_get_set, if_pos rfl]
      have e2 : s'.ticks.get pos.upper = u.tickUpper := by
        rw [hget, C05.tick_get_set, if_pos rfl]
      rw [e1] at gl; rw [e2] at gh
      have fl := tickModify_fo tokA _ _ _ _ _ _ _ _ _ (inv.init pos.lower) (by omega) htl
      have fu := tickModify_fo tokA _ _ _ _ _ _ _ _ _ (inv.init pos.upper) (by omega) htu
      have e : inside tokA s'.ticks s'.pool.tick u.position.lower u.position.upper (glob tokA s') = cp tokA u.position := by
        rw [hcp, growthInside_conv _ _ _ _ _ _ _ _ hgl, mp.glob, mp.tick, el, eu]
        unfold inside
        rw [e1, e2, fl, fu]; rfl
      unfold pendQ pendAt
      rw [e, C07.wsub_self _ (by rw [← e]; exact C07.wsub_lt _ _), Nat.cast_zero, mul_zero, zero_div]
  linarith only [(htok tokA).2, h1, h2]

theorem val_add_liq (tokA : Bool) (p : Nat) (q q' : PositionD) (delta : Int) (h : addLiquidityDelta q.liq delta = .ok q'.liq)
    (el : q'.lower = q.lower) (eu : q'.upper = q.upper) :
    val tokA p q' = val tokA p q + (delta : ℚ) * unitVal tokA p (sp q.lower) (sp q.upper) := by
  have e : ((q'.liq : Nat) : ℚ) = ((q.liq : Nat) : ℚ) + (delta : ℚ) := by exact_mod_cast (addLiquidityDelta_ok h).1
  unfold val
  rw [el, eu, e]; ring

theorem val_zero_liq (tokA : Bool) (p : Nat) (q : PositionD) (h : q.liq = 0) : val tokA p q = 0 := by
  unfold val; rw [h, Nat.cast_zero, zero_mul]

theorem claimOf_zero_liq (tokA : Bool) (s : HistState) (q : PositionD) (h : q.liq = 0) : claimOf tokA s q = owedQ tokA q := by
  unfold claimOf
  rw [pendQ_zero_liq _ _ _ _ _ h, val_zero_liq _ _ _ h, add_zero, add_zero]

/-! ### liquidity changes and fee updates -/

/-- the claims after touching position `id` with liquidity change `delta` (0 for a fee update) -/
theorem solv_modcore {ts0 : Nat} (tokA : Bool) (s s' : HistState) (id : Nat) (delta : Int) (pos : PositionD) (u : ModifyUpdate)
    (inv : Inv s) (g : Geo ts0 s) (w : Wf s) (ids : IdsOK s.positions) (inv' : Inv s') (mp : ModParts s s' id delta pos u)
    (hget : ∀ t, s'.ticks.get t = ((s.ticks.set pos.lower u.tickLower).set pos.upper u.tickUpper).get t)
    (hothers : ∀ kp ∈ s.positions, kp.1 ≠ id → claimOf tokA s' kp.2 = claimOf tokA s kp.2) :
    claims tokA s' ≤ claims tokA s + (delta : ℚ) * unitVal tokA s.pool.price (sp pos.lower) (sp pos.upper) := by
  obtain ⟨hself, hliq, el, eu⟩ := self_claim tokA s s' id delta pos u inv g w inv' mp hget
  have hpf : pfOf tokA s' = pfOf tokA s := by unfold pfOf; rw [mp.pfA, mp.pfB]
  rw [claims_replace tokA s s' id pos u.position ids mp.hpos mp.positions hothers, hpf]
  unfold claimOf
  rw [mp.price, val_add_liq tokA s.pool.price pos u.position delta hliq el eu]
  linarith only [hself]

theorem solv_modify {ts0 : Nat} (tokA : Bool) (s s' : HistState) (id amount : Nat) (positive : Bool) (outs : List Nat)
    (inv : Inv s) (g : Geo ts0 s) (w : Wf s) (ids : IdsOK s.positions) (inv' : Inv s')
    (h : histStep s (.modify id amount positive) = .ok (s', outs)) (sv : Solv tokA s) : Solv tokA s' := by
  obtain ⟨pos, u, da, db, mp, hamt, hticks, hd, hvault⟩ := modify_parts s s' id amount positive outs h
  obtain ⟨_, _, _, fins⟩ := frame_modify s s' id amount positive outs inv inv' h
  -- the other positions: the growth inside a range whose bounds keep their liquidity is not touched
  have hothers : ∀ kp ∈ s.positions, kp.1 ≠ id → claimOf tokA s' kp.2 = claimOf tokA s kp.2 := by
    intro kp hk hne
    unfold claimOf
    rw [mp.price]
    by_cases hl : kp.2.liq = 0
    · rw [pendQ_zero_liq _ _ _ _ _ hl, pendQ_zero_liq _ _ _ _ _ hl]
    · obtain ⟨b1, b2⟩ := bound_of_mem kp.1 kp.2 (by omega) s.positions hk
      have hk' : kp ∈ s'.positions := by rw [mp.positions]; exact mem_replace_other _ _ _ _ hk hne
      obtain ⟨b3, b4⟩ := bound_of_mem kp.1 kp.2 (by omega) s'.positions hk'
      unfold pendQ pendAt
      rw [mp.glob, mp.tick, fins tokA kp.2.lower kp.2.upper (glob tokA s) b1 b2 b3 b4]
  have core := solv_modcore tokA s s' id _ pos u inv g w ids inv' mp (by intro t; rw [hticks]) hothers
  obtain ⟨p1, _, _, p4, p5⟩ := g.pos (id, pos) (posGet_mem id pos s.positions mp.hpos)
  have hv := hvault tokA
  unfold Solv at sv ⊢
  cases positive
  · rw [if_neg Bool.false_ne_true] at hv hd core
    have dv := withdraw_le s.pool.tick s.pool.price pos.lower pos.upper amount da db g.tp p1 p4 p5 hd tokA
    rw [hv.2, Nat.cast_sub hv.1]
    rw [Int.cast_neg, Int.cast_natCast] at core
    linarith only [core, dv, sv]
  · rw [if_pos rfl] at hv hd core
    have dv := deposit_ge s.pool.tick s.pool.price pos.lower pos.upper amount da db g.tp p1 p4 p5 hamt hd tokA
    rw [hv, Nat.cast_add]
    rw [Int.cast_natCast] at core
    linarith only [core, dv, sv]

theorem tickModify_zero {t t' : TickData} {idx cur : Int} {fgA fgB : Nat} {rw : List RewardInfo} {isUpper : Bool}
    (h : nextTickModifyLiquidityUpdate t idx cur fgA fgB rw 0 isUpper = .ok t') : t' = t := by
  rcases tickModify_cases h with ⟨_, e⟩ | ⟨hd, _⟩
  · exact e
  · exact absurd rfl hd

theorem ite_get_self (f : Int → TickData) (t i : Int) : (if t = i then f i else f t) = f t := by
  split
  · rename_i a; rw [a]
  · rfl

theorem solv_upd {ts0 : Nat} (tokA : Bool) (s s' : HistState) (id : Nat) (outs : List Nat)
    (inv : Inv s) (g : Geo ts0 s) (w : Wf s) (ids : IdsOK s.positions) (inv' : Inv s')
    (h : histStep s (.upd id) = .ok (s', outs)) (sv : Solv tokA s) : Solv tokA s' := by
  obtain ⟨pos, u, mp, hticks, hv⟩ := upd_parts s s' id outs h
  obtain ⟨htl, htu, _⟩ := calcModify_parts _ _ _ _ _ _ _ mp.hu
  have e1 := tickModify_zero htl
  have e2 := tickModify_zero htu
  have hget : ∀ t, s'.ticks.get t = ((s.ticks.set pos.lower u.tickLower).set pos.upper u.tickUpper).get t := by
    intro t
    rw [hticks, e1, e2, C05.tick_get_set, C05.tick_get_set, ite_get_self s.ticks.get, ite_get_self s.ticks.get]
  have core := solv_modcore tokA s s' id 0 pos u inv g w ids inv' mp hget
    (fun kp _ _ => claimOf_congr tokA s s' kp.2 hticks mp.tick mp.price (mp.glob tokA))
  unfold Solv at sv ⊢
  rw [hv tokA]
  rw [Int.cast_zero, zero_mul, add_zero] at core
  exact le_trans core sv

/-! ### the remaining operations -/

theorem solv_open (tokA : Bool) (s s' : HistState) (id : Nat) (lo hi : Int) (outs : List Nat)
    (h : histStep s (.openPos id lo hi) = .ok (s', outs)) (sv : Solv tokA s) : Solv tokA s' := by
  obtain ⟨_, _, _, _, hn, rfl, _⟩ := histStep_open_ok h
  have h0 : claimOf tokA s ({ lower := lo, upper := hi } : PositionD) = 0 := by
    rw [claimOf_zero_liq _ _ _ rfl]
    unfold owedQ; split <;> exact Nat.cast_zero
  unfold Solv at sv ⊢
  rw [claims_insert tokA s id _ hn, h0, add_zero]
  exact sv

theorem solv_cfees (tokA : Bool) (s s' : HistState) (id : Nat) (outs : List Nat) (ids : IdsOK s.positions)
    (h : histStep s (.cfees id) = .ok (s', outs)) (sv : Solv tokA s) : Solv tokA s' := by
  obtain ⟨pos, hpos, va, vb, hs, _⟩ := histStep_cfees_ok h
  have hc := claims_replace tokA s s' id pos { pos with owedA := 0, owedB := 0 } ids hpos (by rw [hs]) (fun _ _ _ => by rw [hs]; rfl)
  -- the position's claim and the vault both go down by what was owed
  have e : claimOf tokA s' { pos with owedA := 0, owedB := 0 } = claimOf tokA s pos - owedQ tokA pos := by
    have o0 : owedQ tokA { pos with owedA := 0, owedB := 0 } = 0 := by unfold owedQ; split <;> exact Nat.cast_zero
    rw [hs]
    unfold claimOf
    rw [o0, zero_add]
    show pendQ tokA s.ticks s.pool.tick (glob tokA s) pos + val tokA s.pool.price pos = _
    ring
  have v : (vaultOf tokA s' : ℚ) = (vaultOf tokA s : ℚ) - owedQ tokA pos := by
    rw [hs]
    unfold vaultOf owedQ
    cases tokA
    · simp only [Bool.false_eq_true, if_false]; exact Nat.cast_sub vb
    · simp only [if_true]; exact Nat.cast_sub va
  have hpf : pfOf tokA s' = pfOf tokA s := by rw [hs]; rfl
  unfold Solv at sv ⊢
  rw [hc, v, e, hpf]
  linarith only [sv]

theorem solv_cproto (tokA : Bool) (s s' : HistState) (outs : List Nat)
    (h : histStep s .cproto = .ok (s', outs)) (sv : Solv tokA s) : Solv tokA s' := by
  obtain ⟨va, vb, hs, _⟩ := histStep_cproto_ok h
  have h0 : pfOf tokA s' = 0 := by rw [hs]; cases tokA <;> rfl
  have hle : pfOf tokA s ≤ vaultOf tokA s := by cases tokA; exact vb; exact va
  have hv : vaultOf tokA s' = vaultOf tokA s - pfOf tokA s := by rw [hs]; cases tokA <;> rfl
  unfold Solv at sv ⊢
  rw [claims_congr tokA s s' (by rw [hs]) (by rw [hs]) (by rw [hs]) (by rw [hs]) (by rw [hs]; rfl), h0, hv, Nat.cast_sub hle, Nat.cast_zero]
  linarith only [sv]

theorem solv_clock (tokA : Bool) (s s' : HistState) (now : Nat) (outs : List Nat)
    (h : histStep s (.clock now) = .ok (s', outs)) (sv : Solv tokA s) : Solv tokA s' := by
  obtain ⟨rfl, _⟩ := histStep_clock_ok h
  exact sv

theorem solv_crew (tokA : Bool) (s s' : HistState) (id i : Nat) (outs : List Nat) (ids : IdsOK s.positions)
    (h : histStep s (.crew id i) = .ok (s', outs)) (sv : Solv tokA s) : Solv tokA s' := by
  obtain ⟨_, pos, hpos, hp⟩ := histStep_crew_ok h
  obtain ⟨hs, _⟩ := hp _ rfl
  -- neither the protocol fee, nor the vault, nor anything the position's claim reads has changed
  have hc := claims_replace tokA s s' id pos _ ids hpos (by rw [hs]) (fun _ _ _ => by rw [hs]; rfl)
  have e : claims tokA s' = claims tokA s := by
    rw [hc, hs]
    show claims tokA s + ((pfOf tokA s : ℚ) - (pfOf tokA s : ℚ)) + (claimOf tokA s pos - claimOf tokA s pos) = _
    rw [sub_self, sub_self, add_zero, add_zero]
  unfold Solv at sv ⊢
  rw [e, hs]
  exact sv

theorem solv_reward (tokA : Bool) (s : HistState) (i e t : Nat) (sv : Solv tokA s) : Solv tokA (histReward s i e t).1 := by
  obtain ⟨r, ts, v, hr⟩ := histReward_frame s i e t
  rw [hr]
  exact sv

end WP.Solv
