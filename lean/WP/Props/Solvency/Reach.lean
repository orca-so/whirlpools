import WP.Props.Solvency.Ops
/-
  C01 — solvency at every reachable state.

  `SolvInv` = the bookkeeping invariants (C05 `Inv`, `Geo`, `Wf`, increasing ids, protocol fee rate
  within its denominator) + `Solv` for both vaults.  It holds initially and is kept by EVERY
  operation of every history, executed the way the driver and the program execute them (a failing
  operation changes nothing; `reward` commits its partial effects).
-/
namespace WP.Solv
open WP WP.Gen WP.C05 WP.C10 WP.Path WP.Reach WP.Growth

structure SolvInv (ts0 : Nat) (s : HistState) : Prop where
  inv : Inv s
  geo : Geo ts0 s
  wf : Wf s
  ids : IdsOK s.positions
  proto : s.pool.protoRate ≤ PROTOCOL_FEE_RATE_MUL_VALUE
  solvA : Solv true s
  solvB : Solv false s

variable {ts0 : Nat}

theorem SolvInv.solv {s : HistState} (I : SolvInv ts0 s) (tokA : Bool) : Solv tokA s := by
  cases tokA
  · exact I.solvB
  · exact I.solvA

theorem ids_proto_step (s s' : HistState) (op : HistOp) (outs : List Nat) (h : histStep s op = .ok (s', outs)) :
    (IdsOK s.positions → IdsOK s'.positions) ∧ s'.pool.protoRate = s.pool.protoRate := by
  cases op with
  | reward i e t => cases h
  | openPos id lo hi =>
    obtain ⟨_, _, _, _, hn, rfl, _⟩ := histStep_open_ok h
    exact ⟨fun ids => idsOK_insert _ _ _ ids hn, rfl⟩
  | modify id a p =>
    obtain ⟨pos, u, da, db, mp, _⟩ := modify_parts s s' id a p outs h
    exact ⟨fun ids => by rw [mp.positions]; exact idsOK_replace _ _ _ ids, mp.proto⟩
  | upd id =>
    obtain ⟨pos, u, mp, _⟩ := upd_parts s s' id outs h
    exact ⟨fun ids => by rw [mp.positions]; exact idsOK_replace _ _ _ ids, mp.proto⟩
  | cfees id =>
    obtain ⟨pos, _, _, _, rfl, _⟩ := histStep_cfees_ok h
    exact ⟨fun ids => idsOK_replace _ _ _ ids, rfl⟩
  | cproto =>
    obtain ⟨_, _, rfl, _⟩ := histStep_cproto_ok h
    exact ⟨fun ids => ids, rfl⟩
  | clock now =>
    obtain ⟨rfl, _⟩ := histStep_clock_ok h
    exact ⟨fun ids => ids, rfl⟩
  | crew id i =>
    obtain ⟨_, pos, _, hp⟩ := histStep_crew_ok h
    obtain ⟨rfl, _⟩ := hp _ rfl
    exact ⟨fun ids => idsOK_replace _ _ _ ids, rfl⟩
  | swap amount limit isInput aToB arrays =>
    obtain ⟨u, _, _, hps, _, _, hpr, _⟩ := swap_state s s' amount limit isInput aToB arrays outs h
    exact ⟨fun ids => by rw [hps]; exact ids, hpr⟩

theorem solv_step_op (s s' : HistState) (op : HistOp) (outs : List Nat) (I : SolvInv ts0 s) (hop : OpOK ts0 op) (i1 : Inv s')
    (h : histStep s op = .ok (s', outs)) (tokA : Bool) : Solv tokA s' := by
  cases op with
  | reward i e t => cases h
  | openPos id lo hi => exact solv_open tokA s s' id lo hi outs h (I.solv tokA)
  | modify id a p => exact solv_modify tokA s s' id a p outs I.inv I.geo I.wf I.ids i1 h (I.solv tokA)
  | upd id => exact solv_upd tokA s s' id outs I.inv I.geo I.wf I.ids i1 h (I.solv tokA)
  | cfees id => exact solv_cfees tokA s s' id outs I.ids h (I.solv tokA)
  | cproto => exact solv_cproto tokA s s' outs h (I.solv tokA)
  | clock now => exact solv_clock tokA s s' now outs h (I.solv tokA)
  | crew id i => exact solv_crew tokA s s' id i outs I.ids h (I.solv tokA)
  | swap amount limit isInput aToB arrays =>
    rw [OpOK, ← I.geo.spacing] at hop
    have both := solv_swap s s' amount limit isInput aToB arrays outs I.inv I.geo I.wf I.proto hop.1 hop.2 h I.solvA I.solvB
    cases tokA
    · exact both.2
    · exact both.1

theorem apply_keeps_solv (s : HistState) (op : HistOp) (I : SolvInv ts0 s) (hop : OpOK ts0 op) :
    SolvInv ts0 (histApply s op) := by
  obtain ⟨i1, g1⟩ := apply_keeps s op I.inv I.geo hop
  have w1 := apply_keeps_wf s op I.inv I.geo I.wf hop
  revert i1 g1 w1
  refine histApply_ind (fun st => Inv st → Geo ts0 st → Wf st → SolvInv ts0 st) s op (fun _ _ _ => I) ?_ ?_
  · intro i e t _ i1 g1 w1
    obtain ⟨r, ts, v, hr⟩ := histReward_frame s i e t
    exact { inv := i1, geo := g1, wf := w1, ids := by rw [hr]; exact I.ids, proto := by rw [hr]; exact I.proto,
            solvA := solv_reward true s i e t I.solvA, solvB := solv_reward false s i e t I.solvB }
  · intro s' outs h i1 g1 w1
    obtain ⟨hids, hproto⟩ := ids_proto_step s s' op outs h
    exact { inv := i1, geo := g1, wf := w1, ids := hids I.ids, proto := by rw [hproto]; exact I.proto,
            solvA := solv_step_op s s' op outs I hop i1 h true, solvB := solv_step_op s s' op outs I hop i1 h false }

/-- **C01, the invariant: after ANY finite history both vaults hold at least the protocol fees owed
    plus, for every position, its owed fees, its exact pending fees and the exact value of all of
    its liquidity at the current price.** -/
theorem reach_solvent (ops : List HistOp) : ∀ (s : HistState), SolvInv ts0 s → (∀ op ∈ ops, OpOK ts0 op) →
    SolvInv ts0 (ops.foldl histApply s) :=
  foldl_keeps (SolvInv ts0) (OpOK ts0) histApply apply_keeps_solv ops

/-- a freshly initialized pool (no liquidity, no positions, nothing owed, empty vaults) -/
theorem solv_init (p : PoolD) (now : Nat) (af : Option AfInfo) (h0 : p.liq = 0) (hts : 0 < p.ts) (hfee : p.feeRate ≤ FEE_RATE_HARD_LIMIT)
    (hp1 : MIN_SQRT_PRICE_X64 ≤ p.price) (hp2 : p.price ≤ MAX_SQRT_PRICE_X64) (htick : p.tick = ti p.price)
    (haf : ∀ info, af = some info → InfoOK info)
    (hpr : p.protoRate ≤ PROTOCOL_FEE_RATE_MUL_VALUE) (hpfA : p.pfA = 0) (hpfB : p.pfB = 0)
    (hgA : p.fgA < TWO128) (hgB : p.fgB < TWO128) :
    SolvInv p.ts { pool := p, now := now, af := af } := by
  obtain ⟨i0, g0⟩ := reach_init p now h0 hts hfee hp1 hp2 htick
  exact
    { inv := inv_of_same _ _ i0 rfl rfl rfl (fun _ _ => rfl) i0.ordered,
      geo := { spacing := rfl, tp := g0.tp, pos := g0.pos, ts := hts, liqU := g0.liqU, fee := hfee, af := haf },
      wf := { ticks := fun t => by
                show (TickMap.get [] t).fgoA < TWO128 ∧ (TickMap.get [] t).fgoB < TWO128
                unfold TickMap.get; exact ⟨by decide, by decide⟩,
              fgA := hgA, fgB := hgB },
      ids := List.Pairwise.nil,
      proto := hpr,
      solvA := by unfold Solv claims pfOf vaultOf; simp [sumQ, hpfA],
      solvB := by unfold Solv claims pfOf vaultOf; simp [sumQ, hpfB] }

end WP.Solv
