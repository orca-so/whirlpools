import WP.Props.Solvency.Basic
/-
  C01 — solvency, one iteration of the swap loop.

  For the INPUT token of the swap:   Σ pending fees + Σ values + protocol fee grow by at most
                                     amount_in + fee of the step;
  for the OUTPUT token:              Σ pending fees + Σ values shrink by at least amount_out.
  Ingredients: the step's amounts are the exact curve amounts rounded in the pool's favour (C02),
  the pool liquidity is the sum over the positions in range and no liquidity-bearing tick lies
  strictly inside the move (C05 / C10 via `Path`, `Aim`), the fee growth inside a range moves only
  while the tick index is inside it, by ⌊lp_fee·2^64/L⌋ (C07 via `Growth.step_inside`).
-/
namespace WP.Solv
open WP WP.Gen WP.C05 WP.C10 WP.Path WP.Reach WP.Growth

theorem swapStep_all (c : SwapCtx) (s s' : SwapSt) (nai : Nat) (nti : Int) (ntp tgt : Nat)
    (h : swapStep c s nai nti ntp tgt = .ok s') :
    ∃ sc : SwapStep,
      computeSwap s.remaining s.fm.updateVolAcc.totalFeeRate s.liq s.price
        (s.fm.updateVolAcc.boundedTarget tgt s.liq).1 c.isInput c.aToB = .ok sc ∧
      (if c.isInput then s.remaining = s'.remaining + sc.amountIn + sc.feeAmount ∧ s'.calculated = s.calculated + sc.amountOut
       else s.remaining = s'.remaining + sc.amountOut ∧ s'.calculated = s.calculated + sc.amountIn + sc.feeAmount) ∧
      s'.feeSum = s.feeSum + sc.feeAmount ∧
      s'.protoFee = (calculateFees sc.feeAmount c.protoRate s.liq s.protoFee s.fgIn).1 ∧
      s'.fgIn = (calculateFees sc.feeAmount c.protoRate s.liq s.protoFee s.fgIn).2 ∧
      s'.price = sc.nextPrice := by
  obtain ⟨sc, ra, feeSum, _, _, hsc, hra, hfee, _, _, rfl⟩ := swapStep_ok.mp h
  exact ⟨sc, hsc, C06.stepAmounts_spec _ _ _ _ _ hra, (checkedAdd64_ok.mp hfee).2, rfl, rfl, rfl⟩

theorem step_geom (c : SwapCtx) (ps : List (Nat × PositionD)) (p0 : Nat) (s : SwapSt) (nai : Nat) (nti : Int)
    (ok : CtxOK c) (P : Path c ps p0 s) (A : Aim c s nai nti) (sc : SwapStep)
    (hsc : computeSwap s.remaining s.fm.updateVolAcc.totalFeeRate s.liq s.price
      (s.fm.updateVolAcc.boundedTarget (if c.aToB then max c.limit (sp nti) else min c.limit (sp nti)) s.liq).1 c.isInput c.aToB = .ok sc) :
    C02.WFStep s.remaining s.fm.updateVolAcc.totalFeeRate s.liq s.price
      (s.fm.updateVolAcc.boundedTarget (if c.aToB then max c.limit (sp nti) else min c.limit (sp nti)) s.liq).1 c.aToB ∧
    (if c.aToB then sp nti ≤ sc.nextPrice ∧ sc.nextPrice ≤ s.price else s.price ≤ sc.nextPrice ∧ sc.nextPrice ≤ sp nti) := by
  obtain ⟨wf, hb⟩ := step_wf c ps p0 s nai nti ok P A
  have hdir := C02.step_direction _ _ _ _ _ _ _ sc wf hsc
  refine ⟨wf, ?_⟩
  -- the bounded target lies between the target and the current price
  by_cases hd : c.aToB = true
  · simp only [if_pos hd] at hb hdir ⊢
    exact ⟨Nat.le_trans (Nat.le_max_right _ _) (Nat.le_trans hb.1 hdir.1), hdir.2⟩
  · simp only [if_neg hd] at hb hdir ⊢
    exact ⟨hdir.1, Nat.le_trans (Nat.le_trans hdir.2 hb.1) (Nat.min_le_right _ _)⟩

/-! ### where the positions are relative to one price move -/

theorem bound_of_mem (k : Nat) (q : PositionD) (hl : 0 < q.liq) :
    ∀ l : List (Nat × PositionD), (k, q) ∈ l → Bound l q.lower ∧ Bound l q.upper := by
  intro l
  induction l with
  | nil => intro h; cases h
  | cons hd tl ih =>
    obtain ⟨k0, w⟩ := hd
    intro h
    unfold Bound
    simp only [sumBy]
    rcases List.mem_cons.mp h with e | e
    · cases e
      have g1 := C05.sumBy_gross_nonneg q.lower tl
      have g2 := C05.sumBy_gross_nonneg q.upper tl
      have a : grossContrib q.lower q ≥ q.liq := by unfold grossContrib; split <;> split <;> omega
      have b : grossContrib q.upper q ≥ q.liq := by unfold grossContrib; split <;> split <;> omega
      exact ⟨by omega, by omega⟩
    · obtain ⟨a, b⟩ := ih e
      unfold Bound at a b
      have g1 := C05.gross_nonneg q.lower w
      have g2 := C05.gross_nonneg q.upper w
      exact ⟨by omega, by omega⟩

theorem bound_ticks (ticks : TickMap) (ps : List (Nat × PositionD)) (ts : Nat) (tf : TickFacts ticks ps ts)
    (kp : Nat × PositionD) (hk : kp ∈ ps) (hl : kp.2.liq ≠ 0) :
    sp kp.2.lower ≤ sp kp.2.upper ∧ ∀ b, b = kp.2.lower ∨ b = kp.2.upper →
      MIN_TICK_INDEX ≤ b ∧ b ≤ MAX_TICK_INDEX ∧ b % (ts : Int) = 0 ∧ initAt ticks b = true := by
  obtain ⟨bl, bh⟩ := bound_of_mem kp.1 kp.2 (by omega) ps hk
  have hord := tf.ordered kp hk
  obtain ⟨_, _, m1, m2⟩ := tf.grid kp hk
  refine ⟨C09.sp_le _ _ m1 (by omega) m2, fun b hb => ?_⟩
  rcases hb with rfl | rfl
  · exact ⟨m1, by omega, (bound_init ticks ps ts tf _ bl).2, (bound_init ticks ps ts tf _ bl).1⟩
  · exact ⟨by omega, m2, (bound_init ticks ps ts tf _ bh).2, (bound_init ticks ps ts tf _ bh).1⟩

/-- a position is placed for `sum_val_move` as soon as each of its bounds at or below the current tick
    has its price at or below both ends of the move, and each bound above it at or above both -/
theorem classify_core (t : Int) (p p' : Nat) (q : PositionD) (hlu : sp q.lower ≤ sp q.upper)
    (hb : ∀ b, b = q.lower ∨ b = q.upper → (b ≤ t → sp b ≤ p ∧ sp b ≤ p') ∧ (t < b → p ≤ sp b ∧ p' ≤ sp b)) :
    ((q.lower ≤ t ∧ t < q.upper) ∧ sp q.lower ≤ p ∧ p ≤ sp q.upper ∧ sp q.lower ≤ p' ∧ p' ≤ sp q.upper) ∨
    (¬ (q.lower ≤ t ∧ t < q.upper) ∧ clampP p (sp q.lower) (sp q.upper) = clampP p' (sp q.lower) (sp q.upper)) := by
  obtain ⟨l1, l2⟩ := hb q.lower (Or.inl rfl)
  obtain ⟨u1, u2⟩ := hb q.upper (Or.inr rfl)
  by_cases hr : q.lower ≤ t ∧ t < q.upper
  · exact Or.inl ⟨hr, (l1 hr.1).1, (u2 hr.2).1, (l1 hr.1).2, (u2 hr.2).2⟩
  · refine Or.inr ⟨hr, ?_⟩
    by_cases hu : q.upper ≤ t
    · rw [clamp_high _ _ _ (u1 hu).1 hlu, clamp_high _ _ _ (u1 hu).2 hlu]
    · have hl : t < q.lower := by omega
      rw [clamp_low _ _ _ (l2 hl).1, clamp_low _ _ _ (l2 hl).2]

/-- the hypothesis of `sum_val_move` for an a→b move from the current price down to `p'`: no bound
    of a position with liquidity lies in (nti, s.tick] -/
theorem classify_down (c : SwapCtx) (ps : List (Nat × PositionD)) (p0 : Nat) (s : SwapSt) (nai : Nat) (nti : Int) (p' : Nat)
    (hd : c.aToB = true) (P : Path c ps p0 s) (A : Aim c s nai nti) (h1 : sp nti ≤ p') (h2 : p' ≤ s.price) :
    ∀ kp ∈ ps, kp.2.liq = 0 ∨
      ((kp.2.lower ≤ s.tick ∧ s.tick < kp.2.upper) ∧ sp kp.2.lower ≤ s.price ∧ s.price ≤ sp kp.2.upper ∧ sp kp.2.lower ≤ p' ∧ p' ≤ sp kp.2.upper) ∨
      (¬ (kp.2.lower ≤ s.tick ∧ s.tick < kp.2.upper) ∧
        clampP s.price (sp kp.2.lower) (sp kp.2.upper) = clampP p' (sp kp.2.lower) (sp kp.2.upper)) := by
  intro kp hk
  by_cases hl : kp.2.liq = 0
  · exact Or.inl hl
  · obtain ⟨_, n2, _, n3⟩ := A
    rw [if_pos hd] at n3
    obtain ⟨hlu, hbt⟩ := bound_ticks s.ticks ps c.ts P.tf kp hk hl
    refine Or.inr (classify_core s.tick s.price p' kp.2 hlu fun b hb => ?_)
    obtain ⟨m1, m2, mg, mi⟩ := hbt b hb
    constructor
    · intro hle
      have hbn : b ≤ nti := by
        by_contra hn
        have := n3.2 b (by omega) hle mg
        rw [mi] at this; cases this
      have := C09.sp_le b nti m1 hbn n2
      exact ⟨by omega, by omega⟩
    · intro hlt
      have := TP_le_of_lt _ _ _ P.tp m2 hlt
      exact ⟨this, by omega⟩

/-- b→a, from the current price up to `p'`: no such bound lies in (s.tick, nti) -/
theorem classify_up (c : SwapCtx) (ps : List (Nat × PositionD)) (p0 : Nat) (s : SwapSt) (nai : Nat) (nti : Int) (p' : Nat)
    (hd : c.aToB = false) (P : Path c ps p0 s) (A : Aim c s nai nti) (h1 : s.price ≤ p') (h2 : p' ≤ sp nti) :
    ∀ kp ∈ ps, kp.2.liq = 0 ∨
      ((kp.2.lower ≤ s.tick ∧ s.tick < kp.2.upper) ∧ sp kp.2.lower ≤ s.price ∧ s.price ≤ sp kp.2.upper ∧ sp kp.2.lower ≤ p' ∧ p' ≤ sp kp.2.upper) ∨
      (¬ (kp.2.lower ≤ s.tick ∧ s.tick < kp.2.upper) ∧
        clampP s.price (sp kp.2.lower) (sp kp.2.upper) = clampP p' (sp kp.2.lower) (sp kp.2.upper)) := by
  intro kp hk
  by_cases hl : kp.2.liq = 0
  · exact Or.inl hl
  · obtain ⟨n1, _, _, n3⟩ := A
    rw [if_neg (by rw [hd]; exact Bool.false_ne_true)] at n3
    obtain ⟨hlu, hbt⟩ := bound_ticks s.ticks ps c.ts P.tf kp hk hl
    refine Or.inr (classify_core s.tick s.price p' kp.2 hlu fun b hb => ?_)
    obtain ⟨m1, m2, mg, mi⟩ := hbt b hb
    constructor
    · intro hle
      have := TP_le_of_le _ _ _ P.tp m1 hle
      exact ⟨this, by omega⟩
    · intro hlt
      have hbn : nti ≤ b := by
        by_contra hn
        have := n3.2 b hlt (by omega) mg
        rw [mi] at this; cases this
      have := C09.sp_le nti b n1 hbn m2
      exact ⟨by omega, by omega⟩

/-! ### the amounts of a step against the exact value move -/

theorem cast_round_vs (n d : Nat) (hd : 0 < d) (up : Bool) :
    if up then (n : ℚ) / (d : ℚ) ≤ ((cdiv n d : Nat) : ℚ) else ((n / d : Nat) : ℚ) ≤ (n : ℚ) / (d : ℚ) := by
  cases up
  · rw [if_neg Bool.false_ne_true]; exact Nat.cast_div_le
  · rw [if_pos rfl]
    have h := (cdiv_le_iff (n := n) (d := d) (k := cdiv n d) hd).mp (le_refl _)
    have hd' : (0 : ℚ) < (d : ℚ) := Nat.cast_pos.mpr hd
    rw [div_le_iff₀ hd', ← Nat.cast_mul]
    exact Nat.cast_le.mpr h

theorem roundA_vs (L lo hi : Nat) (h0 : 0 < lo) (h : lo ≤ hi) (up : Bool) :
    if up then (L : ℚ) * ((TWO64 : ℚ) / (lo : ℚ) - (TWO64 : ℚ) / (hi : ℚ)) ≤ ((C02.roundA L lo hi up : Nat) : ℚ)
    else ((C02.roundA L lo hi up : Nat) : ℚ) ≤ (L : ℚ) * ((TWO64 : ℚ) / (lo : ℚ) - (TWO64 : ℚ) / (hi : ℚ)) := by
  have hlo : (0 : ℚ) < (lo : ℚ) := Nat.cast_pos.mpr h0
  have hhi : (0 : ℚ) < (hi : ℚ) := Nat.cast_pos.mpr (Nat.lt_of_lt_of_le h0 h)
  have e : (L : ℚ) * ((TWO64 : ℚ) / (lo : ℚ) - (TWO64 : ℚ) / (hi : ℚ)) = ((C02.aNum L lo hi : Nat) : ℚ) / ((C02.aDen lo hi : Nat) : ℚ) := by
    unfold C02.aNum C02.aDen
    rw [div_sub_div _ _ hlo.ne' hhi.ne', ← mul_div_assoc, Nat.cast_mul, Nat.cast_mul, Nat.cast_mul, Nat.cast_sub h]
    congr 1 <;> ring
  have := cast_round_vs (C02.aNum L lo hi) (C02.aDen lo hi) (Nat.mul_pos (Nat.lt_of_lt_of_le h0 h) h0) up
  rw [e]
  unfold C02.roundA
  cases up
  · simp only [Bool.false_eq_true, if_false] at this ⊢; exact this
  · simp only [if_true] at this ⊢; exact this

theorem roundB_vs (L lo hi : Nat) (h : lo ≤ hi) (up : Bool) :
    if up then (L : ℚ) * (((hi : ℚ) - (lo : ℚ)) / (TWO64 : ℚ)) ≤ ((C02.roundB L lo hi up : Nat) : ℚ)
    else ((C02.roundB L lo hi up : Nat) : ℚ) ≤ (L : ℚ) * (((hi : ℚ) - (lo : ℚ)) / (TWO64 : ℚ)) := by
  have e : (L : ℚ) * (((hi : ℚ) - (lo : ℚ)) / (TWO64 : ℚ)) = ((C02.bNum L lo hi : Nat) : ℚ) / ((TWO64 : Nat) : ℚ) := by
    unfold C02.bNum
    push_cast [Nat.cast_sub h]
    ring
  have := cast_round_vs (C02.bNum L lo hi) TWO64 (by decide) up
  rw [e]
  unfold C02.roundB
  cases up
  · simp only [Bool.false_eq_true, if_false] at this ⊢; exact this
  · simp only [if_true] at this ⊢; exact this

/-- the input taken covers the growth of the input-token value of the in-range liquidity; the output
    paid is covered by the shrinkage of its output-token value -/
theorem amounts_vs_move (dir : Bool) (L p p' : Nat) (h0 : 0 < p) (h0' : 0 < p')
    (hdir : if dir then p' ≤ p else p ≤ p') :
    (L : ℚ) * moveTerm dir p p' ≤ ((C02.roundTok dir L (C02.lo' p p') (C02.hi' p p') true : Nat) : ℚ) ∧
    ((C02.roundTok (!dir) L (C02.lo' p p') (C02.hi' p p') false : Nat) : ℚ) ≤ -((L : ℚ) * moveTerm (!dir) p p') := by
  cases dir
  · obtain ⟨a, b⟩ := C02.lo_hi_of_le hdir
    have hin := roundB_vs L p p' hdir true
    have hout := roundA_vs L p p' h0 hdir false
    rw [if_pos rfl] at hin
    rw [if_neg Bool.false_ne_true] at hout
    rw [a, b]
    simp only [C02.roundTok, moveTerm, Bool.false_eq_true, if_false, Bool.not_false, if_true]
    exact ⟨hin, le_of_le_of_eq hout (by ring)⟩
  · obtain ⟨a, b⟩ := C02.lo_hi_of_ge hdir
    have hin := roundA_vs L p' p h0' hdir true
    have hout := roundB_vs L p' p hdir false
    rw [if_pos rfl] at hin
    rw [if_neg Bool.false_ne_true] at hout
    rw [a, b]
    simp only [C02.roundTok, moveTerm, Bool.false_eq_true, if_false, Bool.not_true, if_true]
    exact ⟨hin, le_of_le_of_eq hout (by ring)⟩

/-- the protocol share and the LP share of a step's fee never add up to more than the fee -/
theorem fees_split (fee protoRate liq curProto fgIn : Nat) (hp : protoRate ≤ PROTOCOL_FEE_RATE_MUL_VALUE) (hfg : fgIn < TWO128) :
    ∃ d delta, (calculateFees fee protoRate liq curProto fgIn).2 = wadd fgIn d ∧
      (calculateFees fee protoRate liq curProto fgIn).1 ≤ curProto + delta ∧ delta ≤ fee ∧ d * liq ≤ (fee - delta) * TWO64 := by
  have hm : PROTOCOL_FEE_RATE_MUL_VALUE = 10000 := rfl
  unfold calculateFees
  simp only []
  refine ⟨if liq > 0 then (fee - (if protoRate > 0 then fee * protoRate / PROTOCOL_FEE_RATE_MUL_VALUE else 0)) * TWO64 / liq else 0,
    if protoRate > 0 then fee * protoRate / PROTOCOL_FEE_RATE_MUL_VALUE else 0, ?_, ?_, ?_, ?_⟩
  · split
    · rfl
    · unfold wadd; rw [Nat.add_zero, Nat.mod_eq_of_lt hfg]
  · split
    · exact Nat.mod_le _ _
    · exact Nat.le_refl _
  · split
    · apply Nat.div_le_of_le_mul
      rw [hm] at hp ⊢
      have : fee * protoRate ≤ fee * 10000 := Nat.mul_le_mul_left _ hp
      omega
    · exact Nat.zero_le _
  · split
    · exact Nat.div_mul_le_self _ _
    · rw [Nat.zero_mul]; exact Nat.zero_le _

/-! ### pending fees over one iteration -/

/-- fee growth accrued to the range of `q` since its checkpoint, read from a tick map -/
def pendAt (tokA : Bool) (ticks : TickMap) (tick : Int) (glob : Nat) (q : PositionD) : Nat :=
  wsub (inside tokA ticks tick q.lower q.upper glob) (cp tokA q)

/-- `pendAt` in tokens, exactly: L·pend/2^64 -/
def pendQ (tokA : Bool) (ticks : TickMap) (tick : Int) (glob : Nat) (q : PositionD) : ℚ :=
  (q.liq : ℚ) * (pendAt tokA ticks tick glob q : ℚ) / (TWO64 : ℚ)

theorem pendQ_nonneg (tokA : Bool) (ticks : TickMap) (tick : Int) (glob : Nat) (q : PositionD) : 0 ≤ pendQ tokA ticks tick glob q :=
  div_nonneg (mul_nonneg (Nat.cast_nonneg _) (Nat.cast_nonneg _)) two64_pos.le

theorem pendQ_zero_liq (tokA : Bool) (ticks : TickMap) (tick : Int) (glob : Nat) (q : PositionD) (h : q.liq = 0) :
    pendQ tokA ticks tick glob q = 0 := by
  unfold pendQ; rw [h, Nat.cast_zero, zero_mul, zero_div]

/-- the pending fees of all positions over one iteration: the input token's grow by at most
    (in-range liquidity)·d/2^64, the output token's do not move -/
theorem step_pend (c : SwapCtx) (ps : List (Nat × PositionD)) (p0 : Nat) (s s' : SwapSt) (nti : Int) (d : Nat)
    (hGo : globOther c < TWO128) (P : Path c ps p0 s) (sh : Shape c s s' nti)
    (wf : TicksWF s.ticks) (hfg : s.fgIn < TWO128) (hd : s'.fgIn = wadd s.fgIn d) :
    sumQ (pendQ c.aToB s'.ticks s'.tick s'.fgIn) ps ≤ sumQ (pendQ c.aToB s.ticks s.tick s.fgIn) ps + (s.liq : ℚ) * (d : ℚ) / (TWO64 : ℚ) ∧
    sumQ (pendQ (!c.aToB) s'.ticks s'.tick (globOther c)) ps = sumQ (pendQ (!c.aToB) s.ticks s.tick (globOther c)) ps := by
  obtain ⟨_, hin⟩ := step_inside c ps p0 s s' nti d hGo P sh wf hfg hd
  have hq := two64_pos
  -- per position with liquidity: the growth inside its range, read as pending growth
  have hpos : ∀ kp ∈ ps, kp.2.liq ≠ 0 →
      pendAt c.aToB s'.ticks s'.tick s'.fgIn kp.2 =
        (if kp.2.lower ≤ s.tick ∧ s.tick < kp.2.upper then wadd (pendAt c.aToB s.ticks s.tick s.fgIn kp.2) d
         else pendAt c.aToB s.ticks s.tick s.fgIn kp.2) ∧
      pendAt (!c.aToB) s'.ticks s'.tick (globOther c) kp.2 = pendAt (!c.aToB) s.ticks s.tick (globOther c) kp.2 := by
    intro kp hk hl
    obtain ⟨bl, bh⟩ := bound_of_mem kp.1 kp.2 (by omega) ps hk
    obtain ⟨e1, e2⟩ := hin kp.2.lower kp.2.upper (P.tf.ordered kp hk) bl bh
    unfold pendAt
    rw [e1, e2]
    refine ⟨?_, rfl⟩
    split
    · exact C07.wsub_wadd_comm _ _ _
    · rfl
  constructor
  · have h1 : sumQ (pendQ c.aToB s'.ticks s'.tick s'.fgIn) ps ≤
        sumQ (fun q => pendQ c.aToB s.ticks s.tick s.fgIn q + ((inRangeLiq s.tick q : Int) : ℚ) * ((d : ℚ) / (TWO64 : ℚ))) ps := by
      apply sumQ_le
      intro kp hk
      by_cases hl : kp.2.liq = 0
      · rw [pendQ_zero_liq _ _ _ _ _ hl, pendQ_zero_liq _ _ _ _ _ hl]
        unfold inRangeLiq
        rw [hl, Nat.cast_zero, ite_self, Int.cast_zero, zero_mul, add_zero]
      · unfold pendQ inRangeLiq
        rw [(hpos kp hk hl).1]
        split
        · -- in range: L·wadd(pend, d)/2^64 ≤ L·(pend + d)/2^64
          have hw : ((wadd (pendAt c.aToB s.ticks s.tick s.fgIn kp.2) d : Nat) : ℚ) ≤
              ((pendAt c.aToB s.ticks s.tick s.fgIn kp.2 : Nat) : ℚ) + (d : ℚ) := by
            exact_mod_cast (Nat.mod_le _ _ : wadd (pendAt c.aToB s.ticks s.tick s.fgIn kp.2) d ≤ _)
          rw [Int.cast_natCast, ← mul_div_assoc, ← add_div, ← mul_add]
          exact div_le_div_of_nonneg_right (mul_le_mul_of_nonneg_left hw (Nat.cast_nonneg _)) hq.le
        · rw [Int.cast_zero, zero_mul, add_zero]
    rw [sumQ_add, sumQ_mul, ← sumQ_cast, ← P.liq, Int.cast_natCast, ← mul_div_assoc] at h1
    exact h1
  · apply sumQ_congr
    intro kp hk
    by_cases hl : kp.2.liq = 0
    · rw [pendQ_zero_liq _ _ _ _ _ hl, pendQ_zero_liq _ _ _ _ _ hl]
    · unfold pendQ
      rw [(hpos kp hk hl).2]

end WP.Solv
