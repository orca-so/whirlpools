import WP.Props.Solvency.Loop
/-
  C01 — solvency at the level of the history state machine: the invariant `Solv` and the swap.

  `Solv tokA s`:  protocol fees owed + Σ fees owed + Σ exact pending fees + Σ exact liquidity values
                  ≤ vault balance,    for token A (`true`) or B (`false`).
-/
namespace WP.Solv
open WP WP.Gen WP.C05 WP.C10 WP.Path WP.Reach WP.Growth

def owedQ (tokA : Bool) (q : PositionD) : ℚ := if tokA then (q.owedA : ℚ) else (q.owedB : ℚ)
def pfOf (tokA : Bool) (s : HistState) : Nat := if tokA then s.pool.pfA else s.pool.pfB
def vaultOf (tokA : Bool) (s : HistState) : Nat := if tokA then s.vaultA else s.vaultB

def claims (tokA : Bool) (s : HistState) : ℚ :=
  (pfOf tokA s : ℚ) + sumQ (owedQ tokA) s.positions + sumQ (pendQ tokA s.ticks s.pool.tick (glob tokA s)) s.positions +
    sumQ (val tokA s.pool.price) s.positions

def Solv (tokA : Bool) (s : HistState) : Prop := claims tokA s ≤ (vaultOf tokA s : ℚ)

theorem owedQ_nonneg (tokA : Bool) (q : PositionD) : 0 ≤ owedQ tokA q := by
  unfold owedQ; split <;> exact Nat.cast_nonneg _

/-! ### the claim of one position, and what an operation on the position list does to the claims -/

/-- what one position claims: fees owed, fees pending, the value of its liquidity -/
def claimOf (tokA : Bool) (s : HistState) (q : PositionD) : ℚ :=
  owedQ tokA q + pendQ tokA s.ticks s.pool.tick (glob tokA s) q + val tokA s.pool.price q

theorem claims_eq (tokA : Bool) (s : HistState) : claims tokA s = (pfOf tokA s : ℚ) + sumQ (claimOf tokA s) s.positions := by
  unfold claims claimOf
  rw [sumQ_add, sumQ_add]; ring

theorem claimOf_congr (tokA : Bool) (s s' : HistState) (q : PositionD) (ht : s'.ticks = s.ticks) (hc : s'.pool.tick = s.pool.tick)
    (hp : s'.pool.price = s.pool.price) (hg : glob tokA s' = glob tokA s) : claimOf tokA s' q = claimOf tokA s q := by
  unfold claimOf; rw [ht, hc, hp, hg]

theorem claims_congr (tokA : Bool) (s s' : HistState) (hps : s'.positions = s.positions) (ht : s'.ticks = s.ticks)
    (hc : s'.pool.tick = s.pool.tick) (hp : s'.pool.price = s.pool.price) (hg : glob tokA s' = glob tokA s) :
    claims tokA s' = claims tokA s + ((pfOf tokA s' : ℚ) - pfOf tokA s) := by
  rw [claims_eq, claims_eq, hps, sumQ_congr _ _ _ fun kp _ => claimOf_congr tokA s s' kp.2 ht hc hp hg]; ring

theorem claims_replace (tokA : Bool) (s s' : HistState) (id : Nat) (old new : PositionD)
    (ids : IdsOK s.positions) (hpos : posGet s.positions id = some old) (hp : s'.positions = posReplace s.positions id new)
    (hoth : ∀ kp ∈ s.positions, kp.1 ≠ id → claimOf tokA s' kp.2 = claimOf tokA s kp.2) :
    claims tokA s' = claims tokA s + ((pfOf tokA s' : ℚ) - pfOf tokA s) + (claimOf tokA s' new - claimOf tokA s old) := by
  rw [claims_eq, claims_eq, hp, sumQ_replace _ _ _ id old new ids hpos hoth]; ring

theorem claims_insert (tokA : Bool) (s : HistState) (id : Nat) (new : PositionD) (hn : posGet s.positions id = none) :
    claims tokA { s with positions := posSet s.positions id new } = claims tokA s + claimOf tokA s new := by
  rw [claims_eq, claims_eq]
  show (pfOf tokA s : ℚ) + sumQ (claimOf tokA s) (posSet s.positions id new) = _
  rw [sumQ_insert _ _ _ _ hn]; ring

/-! ### the swap -/

theorem finish_fields (p : PoolD) (amount limit : Nat) (isInput aToB : Bool) (now : Nat) (rewards : List RewardInfo) (st : SwapSt) (u : PostSwap)
    (h : swapFinish p amount limit isInput aToB now rewards st = .ok u) :
    (if aToB then u.amountA else u.amountB) = (if isInput then amount - st.remaining else st.calculated) ∧
    (if aToB then u.amountB else u.amountA) = (if isInput then st.calculated else amount - st.remaining) ∧
    u.tick = st.tick ∧ u.price = st.price ∧ u.fgIn = st.fgIn ∧ u.protoFee = st.protoFee ∧ u.ticks = st.ticks := by
  obtain ⟨_, _, _, rfl⟩ := swapFinish_ok.mp h
  refine ⟨?_, ?_, rfl, rfl, rfl, rfl, rfl⟩
  all_goals cases aToB <;> cases isInput <;> rfl

/-- the value-only slack of a vault: balance minus the exact value of all liquidity -/
def slack (tokA : Bool) (s : HistState) : ℚ := (vaultOf tokA s : ℚ) - sumQ (val tokA s.pool.price) s.positions

theorem glob_lt {s : HistState} (w : Wf s) (tokA : Bool) : glob tokA s < TWO128 := by
  unfold glob; split; exact w.fgA; exact w.fgB

theorem globOther_swapCtxOf (s : HistState) (arrays : List Int) (limit : Nat) (isInput aToB : Bool) (rewards : List RewardInfo) :
    globOther (swapCtxOf s.pool arrays limit isInput aToB rewards) = glob (!aToB) s := by
  cases aToB <;> rfl

theorem solvLoop_start (c : SwapCtx) (ps : List (Nat × PositionD)) (amount : Nat) (s : SwapSt)
    (wf : TicksWF s.ticks) (fg : s.fgIn < TWO128) (hrem : s.remaining = amount) (hcalc : s.calculated = 0) (hpf : s.protoFee = 0) :
    SolvLoop c ps amount
      (-(sumQ (pendQ c.aToB s.ticks s.tick s.fgIn) ps + sumQ (val c.aToB s.price) ps))
      (-(sumQ (pendQ (!c.aToB) s.ticks s.tick (globOther c)) ps + sumQ (val (!c.aToB) s.price) ps))
      (sumQ (val c.aToB s.price) ps) (sumQ (val (!c.aToB) s.price) ps) s := by
  have e1 : inSoFar c amount s = 0 := by unfold inSoFar; rw [hrem, hcalc, sub_self, Nat.cast_zero, ite_self]
  have e2 : outSoFar c amount s = 0 := by unfold outSoFar; rw [hrem, hcalc, sub_self, Nat.cast_zero, ite_self]
  exact
    { wf := wf, fg := fg, rem := Nat.le_of_eq hrem,
      inn := by rw [e1, hpf, Nat.cast_zero, add_zero, add_assoc, neg_add_cancel],
      out := by rw [e2, add_zero, add_assoc, neg_add_cancel],
      vin := by rw [e1, add_zero],
      vout := by rw [e2, add_zero] }

/-- the amounts `swapFinish` reports are what the loop has taken and paid -/
theorem soFar_total (c : SwapCtx) (isInput : Bool) (amount : Nat) (s : SwapSt) (hc : c.isInput = isInput) (hrem : s.remaining ≤ amount) :
    ((if isInput then amount - s.remaining else s.calculated : Nat) : ℚ) = inSoFar c amount s ∧
    ((if isInput then s.calculated else amount - s.remaining : Nat) : ℚ) = outSoFar c amount s := by
  unfold inSoFar outSoFar
  rw [hc]
  cases isInput
  · exact ⟨rfl, Nat.cast_sub hrem⟩
  · exact ⟨Nat.cast_sub hrem, rfl⟩

/-- what a successful swap COMPUTATION guarantees about its result `u`, before any token moves:
    the input it asks for covers everything it adds to the claims on the input vault, what it
    pays out is covered by the shrinkage of the claims on the output vault — and the same for the
    liquidity values alone -/
theorem swap_core {ts0 : Nat} (s : HistState) (amount limit : Nat) (isInput aToB : Bool) (arrays : List Int) (u : PostSwap)
    (inv : Inv s) (g : Geo ts0 s) (w : Wf s) (hpr : s.pool.protoRate ≤ PROTOCOL_FEE_RATE_MUL_VALUE)
    (hseq : SeqOK arrays s.pool.ts aToB) (hamt : amount ≤ U64_MAX)
    (hsw : swap s.pool s.ticks arrays amount limit isInput aToB s.now s.af SWAP_FUEL = .ok u) :
    ((pfOf aToB s : ℚ) + (u.protoFee : ℚ) + sumQ (owedQ aToB) s.positions + sumQ (pendQ aToB u.ticks u.tick u.fgIn) s.positions +
        sumQ (val aToB u.price) s.positions - claims aToB s ≤ ((if aToB then u.amountA else u.amountB : Nat) : ℚ)) ∧
    ((pfOf (!aToB) s : ℚ) + sumQ (owedQ (!aToB)) s.positions + sumQ (pendQ (!aToB) u.ticks u.tick (glob (!aToB) s)) s.positions +
        sumQ (val (!aToB) u.price) s.positions + ((if aToB then u.amountB else u.amountA : Nat) : ℚ) ≤ claims (!aToB) s) ∧
    (sumQ (val aToB u.price) s.positions ≤ sumQ (val aToB s.pool.price) s.positions + ((if aToB then u.amountA else u.amountB : Nat) : ℚ)) ∧
    (sumQ (val (!aToB) u.price) s.positions + ((if aToB then u.amountB else u.amountA : Nat) : ℚ) ≤ sumQ (val (!aToB) s.pool.price) s.positions) := by
  obtain ⟨rewards, fm, st, ok, P0, hloop, hfin, _⟩ := swap_setup s.pool s.ticks s.positions arrays amount limit isInput aToB s.now SWAP_FUEL s.af u
    g.ts hseq inv.liq (tickFacts_of s inv g) g.tp g.liqU g.fee hamt g.af hsw
  obtain ⟨fa, fb, ftick, fprice, ffg, fpf, fticks⟩ := finish_fields _ _ _ _ _ _ _ _ _ hfin
  have hgOut := globOther_swapCtxOf s arrays limit isInput aToB rewards
  have hGo : globOther (swapCtxOf s.pool arrays limit isInput aToB rewards) < TWO128 := by rw [hgOut]; exact glob_lt w _
  -- the constants of the loop invariant: minus what the two vaults are claimed for by pending fees and values now
  have q0 : SolvLoop (swapCtxOf s.pool arrays limit isInput aToB rewards) s.positions amount
      (-(sumQ (pendQ aToB s.ticks s.pool.tick (glob aToB s)) s.positions + sumQ (val aToB s.pool.price) s.positions))
      (-(sumQ (pendQ (!aToB) s.ticks s.pool.tick (glob (!aToB) s)) s.positions + sumQ (val (!aToB) s.pool.price) s.positions))
      (sumQ (val aToB s.pool.price) s.positions) (sumQ (val (!aToB) s.pool.price) s.positions)
      (swapInit s.pool s.ticks amount aToB fm) := by
    rw [← hgOut]
    exact solvLoop_start _ _ _ (swapInit s.pool s.ticks amount aToB fm) w.ticks (glob_lt w aToB) rfl rfl rfl
  obtain ⟨_, q1⟩ := solv_loop _ s.positions s.pool.price amount _ _ _ _ ok hpr hGo SWAP_FUEL _ st P0 q0 hloop
  obtain ⟨hinTot, houtTot⟩ := soFar_total (swapCtxOf s.pool arrays limit isInput aToB rewards) isInput amount st rfl q1.rem
  have qi := q1.inn
  have qo := q1.out
  rw [hgOut] at qo
  have hcA : (swapCtxOf s.pool arrays limit isInput aToB rewards).aToB = aToB := rfl
  rw [hcA] at qi qo
  rw [fa, fb, hinTot, houtTot, ftick, fprice, ffg, fpf, fticks]
  unfold claims
  exact ⟨by linarith only [qi], by linarith only [qo], q1.vin, q1.vout⟩

/-- the state after a successful swap operation, by input token `aToB` and output token `!aToB` -/
theorem swap_state (s s' : HistState) (amount limit : Nat) (isInput aToB : Bool) (arrays : List Int) (outs : List Nat)
    (h : histStep s (.swap amount limit isInput aToB arrays) = .ok (s', outs)) :
    ∃ u, swap s.pool s.ticks arrays amount limit isInput aToB s.now s.af SWAP_FUEL = .ok u ∧
      s'.ticks = u.ticks ∧ s'.positions = s.positions ∧ s'.pool.tick = u.tick ∧ s'.pool.price = u.price ∧
      s'.pool.protoRate = s.pool.protoRate ∧
      glob aToB s' = u.fgIn ∧ glob (!aToB) s' = glob (!aToB) s ∧
      pfOf aToB s' ≤ pfOf aToB s + u.protoFee ∧ pfOf (!aToB) s' = pfOf (!aToB) s ∧
      vaultOf aToB s' = vaultOf aToB s + (if aToB then u.amountA else u.amountB) ∧
      (if aToB then u.amountB else u.amountA) ≤ vaultOf (!aToB) s ∧
      vaultOf (!aToB) s' = vaultOf (!aToB) s - (if aToB then u.amountB else u.amountA) := by
  obtain ⟨_, u, hsw, hv, rfl, _⟩ := histStep_swap_ok h
  refine ⟨u, hsw, rfl, rfl, ?_⟩
  cases aToB
  · exact ⟨rfl, rfl, rfl, rfl, rfl, Nat.mod_le _ _, rfl, rfl, hv, rfl⟩
  · exact ⟨rfl, rfl, rfl, rfl, rfl, Nat.mod_le _ _, rfl, rfl, hv, rfl⟩

/-- **a swap keeps both vaults solvent** -/
theorem solv_swap {ts0 : Nat} (s s' : HistState) (amount limit : Nat) (isInput aToB : Bool) (arrays : List Int) (outs : List Nat)
    (inv : Inv s) (g : Geo ts0 s) (w : Wf s) (hpr : s.pool.protoRate ≤ PROTOCOL_FEE_RATE_MUL_VALUE)
    (hseq : SeqOK arrays s.pool.ts aToB) (hamt : amount ≤ U64_MAX)
    (h : histStep s (.swap amount limit isInput aToB arrays) = .ok (s', outs))
    (sa : Solv true s) (sb : Solv false s) : Solv true s' ∧ Solv false s' := by
  obtain ⟨u, hsw, ht, hps, etick, eprice, _, g1, g2, p1, p2, v1, v2, v3⟩ := swap_state s s' amount limit isInput aToB arrays outs h
  obtain ⟨ci, co, _, _⟩ := swap_core s amount limit isInput aToB arrays u inv g w hpr hseq hamt hsw
  have sv : ∀ t, claims t s ≤ (vaultOf t s : ℚ) := fun t => by cases t; exact sb; exact sa
  have both : Solv aToB s' ∧ Solv (!aToB) s' := by
    unfold Solv claims
    rw [ht, hps, etick, eprice, g1, g2, p2, v1, v3, Nat.cast_sub v2, Nat.cast_add]
    have p1' : (pfOf aToB s' : ℚ) ≤ (pfOf aToB s : ℚ) + (u.protoFee : ℚ) := by exact_mod_cast p1
    exact ⟨by linarith only [ci, sv aToB, p1'], by linarith only [co, sv (!aToB)]⟩
  cases aToB
  · exact ⟨both.2, both.1⟩
  · exact both

/-- **a swap never lowers the value-only slack of either vault**: what comes in is at least the growth
    of the liquidity value in that token, what goes out at most its shrinkage -/
theorem swap_slack_mono {ts0 : Nat} (s s' : HistState) (amount limit : Nat) (isInput aToB : Bool) (arrays : List Int) (outs : List Nat)
    (inv : Inv s) (g : Geo ts0 s) (w : Wf s) (hpr : s.pool.protoRate ≤ PROTOCOL_FEE_RATE_MUL_VALUE)
    (hseq : SeqOK arrays s.pool.ts aToB) (hamt : amount ≤ U64_MAX)
    (h : histStep s (.swap amount limit isInput aToB arrays) = .ok (s', outs)) :
    slack true s ≤ slack true s' ∧ slack false s ≤ slack false s' ∧ s'.positions = s.positions := by
  obtain ⟨u, hsw, _, hps, _, eprice, _, _, _, _, _, v1, v2, v3⟩ := swap_state s s' amount limit isInput aToB arrays outs h
  obtain ⟨_, _, vi, vo⟩ := swap_core s amount limit isInput aToB arrays u inv g w hpr hseq hamt hsw
  have both : slack aToB s ≤ slack aToB s' ∧ slack (!aToB) s ≤ slack (!aToB) s' := by
    unfold slack
    rw [hps, eprice, v1, v3, Nat.cast_sub v2, Nat.cast_add]
    exact ⟨by linarith only [vi], by linarith only [vo]⟩
  cases aToB
  · exact ⟨both.2, both.1, hps⟩
  · exact ⟨both.1, both.2, hps⟩

end WP.Solv
