import WP.Props.FeePath
import WP.Lemmas.Loop
/-
  The swap path: composition of the step lemmas along the whole swap loop (static and adaptive fee).

  Invariant `Path` of the loop state, relative to the (unchanged) list of positions `ps`:
    * pool liquidity = Σ liquidity of the positions covering the current tick        (C05)
    * every tick's net / gross / initialized flag are the sums over `ps`             (C05)
    * the current tick index and price are consistent (`TP`)                         (C09)
    * the price lies between the start price and the limit                           (C03 PriceBounded)
  proved to be preserved by every iteration given that the next-tick search returned the nearest
  initialized tick (`seqNext_*_interval`, C10) and that a step never moves the price past its target
  (`step_direction`, C02).  Consequences: `SwapPreserves` (C05), `PriceBounded` (C03) and "the swap
  crosses exactly the initialized ticks on its path" (C10) over consecutive,
  aligned tick arrays (what `try_build` hands to the loop: `start_indexes_consec`, `validStart_mod`).
-/
namespace WP.Path
open WP WP.Gen WP.C05 WP.C10

/-! ### one iteration -/

theorem stepCross_spec (c : SwapCtx) (s : SwapSt) (sc : SwapStep) (fgIn nai : Nat) (nti : Int) (ntp : Nat) (cr : CrossRes)
    (h : stepCross c s sc fgIn nai nti ntp = .ok cr) :
    (sc.nextPrice = ntp ∧ cr.tick = (if c.aToB then nti - 1 else nti) ∧ ∃ start, c.arrays[nai]? = some start ∧
      (((inArrayUsable start c.ts nti && (s.ticks.get nti).initialized) = true ∧
          addLiquidityDelta s.liq (if c.aToB then -(s.ticks.get nti).net else (s.ticks.get nti).net) = .ok cr.liq ∧
          cr.ticks = s.ticks.set nti (nextTickCrossUpdate (s.ticks.get nti) (if c.aToB then fgIn else c.fgOtherA)
            (if c.aToB then c.fgOtherB else fgIn) c.rewards)) ∨
       ((inArrayUsable start c.ts nti && (s.ticks.get nti).initialized) = false ∧ cr.liq = s.liq ∧ cr.ticks = s.ticks))) ∨
    (sc.nextPrice ≠ ntp ∧ sc.nextPrice ≠ s.price ∧ cr.tick = ti sc.nextPrice ∧ cr.liq = s.liq ∧ cr.ticks = s.ticks) ∨
    (sc.nextPrice ≠ ntp ∧ sc.nextPrice = s.price ∧ cr.tick = s.tick ∧ cr.liq = s.liq ∧ cr.ticks = s.ticks) := by
  unfold stepCross at h
  by_cases hp : sc.nextPrice = ntp
  · rw [if_pos hp] at h
    dsimp only at h
    cases hst : c.arrays[nai]? with
    | none => rw [hst] at h; simp at h
    | some start =>
      rw [hst] at h
      dsimp only at h
      refine Or.inl ⟨hp, ?_⟩
      refine (fun (k : _ ∧ _) => ⟨k.1, start, rfl, k.2⟩) ?_
      by_cases hti : (inArrayUsable start c.ts nti && (s.ticks.get nti).initialized) = true
      · rw [if_pos hti] at h
        cases hal : addLiquidityDelta s.liq (if c.aToB = true then -(s.ticks.get nti).net else (s.ticks.get nti).net) with
        | error e => rw [hal] at h; cases h
        | ok l =>
          rw [hal] at h
          dsimp only at h
          by_cases hts : c.ts = 0
          · rw [if_pos hts] at h; cases h
          · rw [if_neg hts] at h; cases h; exact ⟨rfl, Or.inl ⟨hti, rfl, rfl⟩⟩
      · rw [if_neg hti] at h
        dsimp only at h
        by_cases hts : c.ts = 0
        · rw [if_pos hts] at h; cases h
        · rw [if_neg hts] at h; cases h; exact ⟨rfl, Or.inr ⟨Bool.eq_false_iff.mpr hti, rfl, rfl⟩⟩
  · rw [if_neg hp] at h
    by_cases hq : sc.nextPrice ≠ s.price
    · rw [if_pos hq] at h; cases h
      exact Or.inr (Or.inl ⟨hp, hq, rfl, rfl, rfl⟩)
    · rw [if_neg hq] at h; cases h
      exact Or.inr (Or.inr ⟨hp, Decidable.not_not.mp hq, rfl, rfl, rfl⟩)

theorem swapStep_parts (c : SwapCtx) (s s' : SwapSt) (nai : Nat) (nti : Int) (ntp tgt : Nat)
    (h : swapStep c s nai nti ntp tgt = .ok s') :
    ∃ sc, computeSwap s.remaining s.fm.updateVolAcc.totalFeeRate s.liq s.price
        (s.fm.updateVolAcc.boundedTarget tgt s.liq).1 c.isInput c.aToB = .ok sc ∧
      stepCross c s sc s'.fgIn nai nti ntp = .ok { arrayIdx := s'.arrayIdx, tick := s'.tick, liq := s'.liq, ticks := s'.ticks } ∧
      s'.price = sc.nextPrice ∧ s'.fgIn = (calculateFees sc.feeAmount c.protoRate s.liq s.protoFee s.fgIn).2 ∧
      (((s.fm.updateVolAcc.boundedTarget tgt s.liq).2 = false ∧ s'.fm = s.fm.updateVolAcc.advance) ∨
        s.fm.updateVolAcc.advanceAfterSkip sc.nextPrice ntp nti = .ok s'.fm) ∧
      s'.remaining ≤ s.remaining := by
  obtain ⟨sc, ra, feeSum, cr, fm', hsc, hra, _, hcr, hfm, rfl⟩ := swapStep_ok.mp h
  refine ⟨sc, hsc, hcr, rfl, rfl, ?_, ?_⟩
  · cases hb : (s.fm.updateVolAcc.boundedTarget tgt s.liq).2 with
    | false => rw [hb] at hfm; cases hfm; exact Or.inl ⟨rfl, rfl⟩
    | true => rw [hb] at hfm; exact Or.inr hfm
  · have := C06.stepAmounts_spec _ _ _ _ _ hra
    show ra.1 ≤ s.remaining
    split at this <;> omega

/-! ### the loop invariant -/

theorem addLiq_spec (l l' : Nat) (d : Int) (h : addLiquidityDelta l d = .ok l') (hl : l ≤ U128_MAX) :
    (l' : Int) = l + d ∧ l' ≤ U128_MAX := by
  unfold addLiquidityDelta at h
  by_cases h0 : d = 0
  · rw [if_pos h0] at h; cases h; exact ⟨by omega, hl⟩
  rw [if_neg h0] at h
  by_cases hp : d > 0
  · rw [if_pos hp] at h
    by_cases hu : l + d.toNat ≤ U128_MAX
    · rw [if_pos hu] at h; cases h; exact ⟨by omega, hu⟩
    · rw [if_neg hu] at h; cases h
  · rw [if_neg hp] at h
    by_cases hu : d.natAbs ≤ l
    · rw [if_pos hu] at h; cases h; exact ⟨by omega, Nat.le_trans (Nat.sub_le _ _) hl⟩
    · rw [if_neg hu] at h; cases h

/-- the facts about the swap's fixed context the path proof uses (`swap`'s own guards give the
    limit bounds; the account loader gives aligned, consecutive arrays: C10 `buildSeq_spec`) -/
structure CtxOK (c : SwapCtx) : Prop where
  ts : 0 < c.ts
  consec : if c.aToB then C10.ConsecDown c.arrays c.ts else C10.ConsecUp c.arrays c.ts
  aligned : C10.StartsAligned c.arrays c.ts
  lim_lo : MIN_SQRT_PRICE_X64 ≤ c.limit
  lim_hi : c.limit ≤ MAX_SQRT_PRICE_X64

/-- the invariant of the swap loop, relative to the open positions `ps` and the starting price `p0` -/
structure Path (c : SwapCtx) (ps : List (Nat × PositionD)) (p0 : Nat) (s : SwapSt) : Prop where
  liq : (s.liq : Int) = sumBy (inRangeLiq s.tick) ps
  tf : TickFacts s.ticks ps c.ts
  tp : TP s.tick s.price
  lim : if c.aToB then c.limit ≤ s.price ∧ s.price ≤ p0 else p0 ≤ s.price ∧ s.price ≤ c.limit
  fm : FmOK c.aToB s.tick s.fm
  remU : s.remaining ≤ U64_MAX
  liqU : s.liq ≤ U128_MAX

/-- inside the inner loop: `nti` is the next tick to reach, nothing initialized lies between -/
def Aim (c : SwapCtx) (s : SwapSt) (nai : Nat) (nti : Int) : Prop :=
  MIN_TICK_INDEX ≤ nti ∧ nti ≤ MAX_TICK_INDEX ∧
  (∃ st, c.arrays[nai]? = some st ∧ st - (c.ts : Int) < nti ∧ nti < st + 88 * (c.ts : Int)) ∧
  (if c.aToB then nti ≤ s.tick ∧ ∀ x, nti < x → x ≤ s.tick → x % (c.ts : Int) = 0 → initAt s.ticks x = false
   else s.tick < nti ∧ ∀ x, s.tick < x → x < nti → x % (c.ts : Int) = 0 → initAt s.ticks x = false)

theorem cross_upd_same (t : TickData) (ga gb : Nat) (rw : List RewardInfo) :
    (nextTickCrossUpdate t ga gb rw).net = t.net ∧ (nextTickCrossUpdate t ga gb rw).gross = t.gross ∧
    (nextTickCrossUpdate t ga gb rw).initialized = t.initialized := by
  unfold nextTickCrossUpdate
  exact ⟨rfl, rfl, rfl⟩

/-- a tick the loop reaches but does not cross is not initialized: an initialized tick is a grid tick
    inside the bounds, hence a slot of the array the search reported it in -/
theorem not_init_of_not_crossed (c : SwapCtx) (ps : List (Nat × PositionD)) (s : SwapSt) (start nti : Int)
    (ok : CtxOK c) (tf : TickFacts s.ticks ps c.ts) (hst : start % (c.ts : Int) = 0)
    (h1 : start - (c.ts : Int) < nti) (h2 : nti < start + 88 * (c.ts : Int))
    (hno : (inArrayUsable start c.ts nti && (s.ticks.get nti).initialized) = false) : initAt s.ticks nti = false := by
  cases hi : initAt s.ticks nti with
  | false => rfl
  | true =>
    obtain ⟨g1, g2, g3⟩ := init_grid s.ticks ps c.ts tf nti hi
    have hge : nti ≥ start := C10.grid_ge start nti c.ts ok.ts hst g1 h1
    have hu : inArrayUsable start c.ts nti = true := by
      unfold inArrayUsable isUsableTick
      rw [show ((TICK_ARRAY_SIZE : Nat) : Int) = 88 from rfl, decide_eq_true hge, decide_eq_true h2, decide_eq_true g2,
        decide_eq_true g3, decide_eq_true g1]
      rfl
    rw [hu, show (s.ticks.get nti).initialized = true from hi] at hno
    cases hno

/-- an iteration that reaches `nti`: the tick is crossed iff it is initialized, and nothing initialized lies before it -/
theorem path_cross (c : SwapCtx) (ps : List (Nat × PositionD)) (p0 : Nat) (s : SwapSt) (liq' : Nat) (ticks' : TickMap) (nai : Nat)
    (nti : Int) (ga gb : Nat) (ok : CtxOK c) (P : Path c ps p0 s) (A : Aim c s nai nti)
    (h : ∃ start, c.arrays[nai]? = some start ∧
      (((inArrayUsable start c.ts nti && (s.ticks.get nti).initialized) = true ∧
          addLiquidityDelta s.liq (if c.aToB then -(s.ticks.get nti).net else (s.ticks.get nti).net) = .ok liq' ∧
          ticks' = s.ticks.set nti (nextTickCrossUpdate (s.ticks.get nti) ga gb c.rewards)) ∨
       ((inArrayUsable start c.ts nti && (s.ticks.get nti).initialized) = false ∧ liq' = s.liq ∧ ticks' = s.ticks))) :
    (liq' : Int) = sumBy (inRangeLiq (if c.aToB then nti - 1 else nti)) ps ∧ TP (if c.aToB then nti - 1 else nti) (sp nti) ∧
    TickFacts ticks' ps c.ts ∧ liq' ≤ U128_MAX ∧
    ((initAt s.ticks nti = true ∧ ticks' = s.ticks.set nti (nextTickCrossUpdate (s.ticks.get nti) ga gb c.rewards)) ∨
     (initAt s.ticks nti = false ∧ ticks' = s.ticks)) := by
  obtain ⟨n1, n2, ⟨st, hst, l1, l2⟩, hA⟩ := A
  obtain ⟨start, hstart, h⟩ := h
  rw [hst] at hstart
  cases hstart
  have tf := P.tf
  have geo : (s.liq : Int) + (if c.aToB then -(sumBy (netContrib nti) ps) else sumBy (netContrib nti) ps) =
      sumBy (inRangeLiq (if c.aToB then nti - 1 else nti)) ps ∧ TP (if c.aToB then nti - 1 else nti) (sp nti) := by
    by_cases hd : c.aToB = true
    · rw [if_pos hd] at hA ⊢
      rw [if_pos hd, ← Int.sub_eq_add_neg]
      exact ⟨(C05.cross_preserves nti (s.liq : Int) ps tf.ordered).1
        (by rw [P.liq, cover_const s.ticks ps c.ts tf nti s.tick hA.1 hA.2]), TP_cross_down nti n1 n2⟩
    · rw [if_neg hd] at hA ⊢
      rw [if_neg hd]
      exact ⟨(C05.cross_preserves nti (s.liq : Int) ps tf.ordered).2
        (by rw [P.liq]; exact cover_const s.ticks ps c.ts tf s.tick (nti - 1) (Int.le_sub_one_of_lt hA.1)
              (fun x hx1 hx2 hx3 => hA.2 x hx1 (Int.lt_of_le_sub_one hx2) hx3)), TP_cross_up nti n1 n2⟩
  rw [← geo.1]
  rcases h with ⟨hti, hadd, hticks⟩ | ⟨hno, hl, ht⟩
  · obtain ⟨e1, e2⟩ := addLiq_spec _ _ _ hadd P.liqU
    refine ⟨by rw [e1, tf.net nti], geo.2, ?_, e2, Or.inl ⟨(Bool.and_eq_true _ _ ▸ hti).2, hticks⟩⟩
    -- the crossing rewrites only the growth checkpoints of tick `nti`
    have hget : ∀ i, (ticks'.get i).net = (s.ticks.get i).net ∧ (ticks'.get i).gross = (s.ticks.get i).gross ∧
        (ticks'.get i).initialized = (s.ticks.get i).initialized := by
      intro i
      rw [hticks, C05.tick_get_set]
      by_cases e : i = nti
      · rw [if_pos e, e]; exact cross_upd_same _ _ _ _
      · rw [if_neg e]; exact ⟨rfl, rfl, rfl⟩
    exact { net := fun i => by rw [(hget i).1]; exact tf.net i,
            gross := fun i => by rw [(hget i).2.1]; exact tf.gross i,
            init := fun i => by rw [(hget i).2.1, (hget i).2.2]; exact tf.init i,
            ordered := tf.ordered, grid := tf.grid }
  · have hni := not_init_of_not_crossed c ps s st nti ok tf (ok.aligned nai st hst) l1 l2 hno
    rw [hl, ht]
    refine ⟨?_, geo.2, tf, P.liqU, Or.inr ⟨hni, rfl⟩⟩
    rw [C05.net_zero_of_gross_zero nti ps (gross_zero_of_not_init s.ticks ps c.ts tf nti hni), Int.neg_zero, ite_self,
      Int.add_zero]

/-- what one iteration did, in the terms the fee and reward accounting needs: the input-token fee
    growth advanced by the step's LP fee share; then either the tick `nti` was reached (flipped iff
    initialized, nothing initialized skipped on the way) or the tick index moved without passing
    any initialized tick -/
def Shape (c : SwapCtx) (s s' : SwapSt) (nti : Int) : Prop :=
  (∃ fee, s'.fgIn = (calculateFees fee c.protoRate s.liq s.protoFee s.fgIn).2) ∧
  ((s'.tick = (if c.aToB then nti - 1 else nti) ∧
      ((initAt s.ticks nti = true ∧ s'.ticks = s.ticks.set nti (nextTickCrossUpdate (s.ticks.get nti)
          (if c.aToB then s'.fgIn else c.fgOtherA) (if c.aToB then c.fgOtherB else s'.fgIn) c.rewards)) ∨
       (initAt s.ticks nti = false ∧ s'.ticks = s.ticks)) ∧
      (if c.aToB then nti ≤ s.tick ∧ ∀ x, nti < x → x ≤ s.tick → x % (c.ts : Int) = 0 → initAt s.ticks x = false
       else s.tick < nti ∧ ∀ x, s.tick < x → x < nti → x % (c.ts : Int) = 0 → initAt s.ticks x = false)) ∨
   (s'.ticks = s.ticks ∧
      (if c.aToB then s'.tick ≤ s.tick ∧ ∀ x, s'.tick < x → x ≤ s.tick → x % (c.ts : Int) = 0 → initAt s.ticks x = false
       else s.tick ≤ s'.tick ∧ ∀ x, s.tick < x → x ≤ s'.tick → x % (c.ts : Int) = 0 → initAt s.ticks x = false)))

theorem step_wf (c : SwapCtx) (ps : List (Nat × PositionD)) (p0 : Nat) (s : SwapSt) (nai : Nat) (nti : Int)
    (ok : CtxOK c) (P : Path c ps p0 s) (A : Aim c s nai nti) :
    C02.WFStep s.remaining s.fm.updateVolAcc.totalFeeRate s.liq s.price
      (s.fm.updateVolAcc.boundedTarget (if c.aToB then max c.limit (sp nti) else min c.limit (sp nti)) s.liq).1 c.aToB ∧
    (if c.aToB then
      max c.limit (sp nti) ≤ (s.fm.updateVolAcc.boundedTarget (max c.limit (sp nti)) s.liq).1 ∧ max c.limit (sp nti) ≤ s.price
     else (s.fm.updateVolAcc.boundedTarget (min c.limit (sp nti)) s.liq).1 ≤ min c.limit (sp nti) ∧ s.price ≤ min c.limit (sp nti)) := by
  have hpb := TP_price_bounds _ _ P.tp
  have hr := TP_range _ _ P.tp
  obtain ⟨n1, n2, _, hA⟩ := A
  have hlim := P.lim
  have hfm := P.fm
  by_cases hd : c.aToB = true
  · rw [if_pos hd] at hA hlim ⊢
    rw [if_pos hd]
    rw [hd] at hfm
    have hmin : MIN_TICK_INDEX ≤ s.tick := Int.le_trans n1 hA.1
    have htgt : max c.limit (sp nti) ≤ s.price := Nat.max_le.mpr ⟨hlim.1, TP_le_of_le _ _ _ P.tp n1 hA.1⟩
    have hbd := fm_bounded_down s.fm s.tick s.price _ s.liq hfm hmin hr.2 (TP_le_of_le _ _ _ P.tp hmin (Int.le_refl _)) htgt
    exact ⟨{ cur_lo := hpb.1, cur_hi := hpb.2,
             tgt_lo := Nat.le_trans (Nat.le_trans ok.lim_lo (Nat.le_max_left _ _)) hbd.1,
             tgt_hi := Nat.le_trans hbd.2 hpb.2,
             dirOk := by rw [if_pos hd]; exact hbd.2,
             remU := P.remU, LU := P.liqU, rateOk := rate_ok true s.tick s.fm hfm }, hbd.1, htgt⟩
  · rw [if_neg hd] at hA hlim ⊢
    rw [if_neg hd]
    rw [Bool.eq_false_iff.mpr hd] at hfm
    have hmax : s.tick < MAX_TICK_INDEX := Int.lt_of_lt_of_le hA.1 n2
    have htgt : s.price ≤ min c.limit (sp nti) := Nat.le_min.mpr ⟨hlim.2, TP_le_of_lt _ _ _ P.tp n2 hA.1⟩
    have hbd := fm_bounded_up s.fm s.tick s.price _ s.liq hfm hr.1 hmax
      (TP_le_of_lt _ _ _ P.tp hmax (Int.lt_add_one_iff.mpr (Int.le_refl _))) htgt
    exact ⟨{ cur_lo := hpb.1, cur_hi := hpb.2,
             tgt_lo := Nat.le_trans hpb.1 hbd.1,
             tgt_hi := Nat.le_trans hbd.2 (Nat.le_trans (Nat.min_le_left _ _) ok.lim_hi),
             dirOk := by rw [if_neg hd]; exact hbd.1,
             remU := P.remU, LU := P.liqU, rateOk := rate_ok false s.tick s.fm hfm }, hbd.2, htgt⟩

/-- an iteration that ends short of `nti`: liquidity and ticks stay, the tick index slides towards `nti` -/
theorem path_slide (c : SwapCtx) (ps : List (Nat × PositionD)) (p0 : Nat) (s s' : SwapSt) (nai : Nat) (nti : Int) (p' : Nat)
    (P : Path c ps p0 s) (A : Aim c s nai nti) (hp1 : MIN_SQRT_PRICE_X64 ≤ p') (hp2 : p' ≤ MAX_SQRT_PRICE_X64)
    (hdir : if c.aToB then sp nti ≤ p' ∧ p' ≤ s.price else s.price ≤ p' ∧ p' ≤ sp nti)
    (hend : (p' ≠ sp nti ∧ p' ≠ s.price ∧ s'.tick = ti p' ∧ s'.liq = s.liq ∧ s'.ticks = s.ticks) ∨
      (p' ≠ sp nti ∧ p' = s.price ∧ s'.tick = s.tick ∧ s'.liq = s.liq ∧ s'.ticks = s.ticks)) :
    TP s'.tick p' ∧ TickFacts s'.ticks ps c.ts ∧ s'.liq ≤ U128_MAX ∧
    (s'.liq : Int) = sumBy (inRangeLiq s'.tick) ps ∧ Aim c s' nai nti ∧
    (s'.ticks = s.ticks ∧
      (if c.aToB then s'.tick ≤ s.tick ∧ ∀ x, s'.tick < x → x ≤ s.tick → x % (c.ts : Int) = 0 → initAt s.ticks x = false
       else s.tick ≤ s'.tick ∧ ∀ x, s.tick < x → x ≤ s'.tick → x % (c.ts : Int) = 0 → initAt s.ticks x = false)) := by
  obtain ⟨n1, n2, hst, hA⟩ := A
  obtain ⟨el, etk⟩ : s'.liq = s.liq ∧ s'.ticks = s.ticks := hend.elim (·.2.2.2) (·.2.2.2)
  refine ⟨?_, etk ▸ P.tf, el ▸ P.liqU, ?_⟩
  · rcases hend with ⟨_, _, e, _⟩ | ⟨_, hq, e, _⟩
    · rw [e]; exact TP_ti _ hp1 hp2
    · rw [e, hq]; exact P.tp
  unfold Aim
  rw [el, etk, P.liq]
  by_cases hd : c.aToB = true
  · rw [if_pos hd] at hA hdir ⊢
    rw [if_pos hd]
    have hmv : nti ≤ s'.tick ∧ s'.tick ≤ s.tick := by
      rcases hend with ⟨_, hq, e, _⟩ | ⟨_, _, e, _⟩
      · rw [e]; exact ti_between_down s.tick nti s.price p' P.tp n1 n2 hdir.1 hdir.2 hq
      · rw [e]; exact ⟨hA.1, Int.le_refl _⟩
    have hno : ∀ x, s'.tick < x → x ≤ s.tick → x % (c.ts : Int) = 0 → initAt s.ticks x = false :=
      fun x hx1 hx2 hx3 => hA.2 x (Int.lt_of_le_of_lt hmv.1 hx1) hx2 hx3
    exact ⟨(cover_const s.ticks ps c.ts P.tf s'.tick s.tick hmv.2 hno).symm,
      ⟨n1, n2, hst, hmv.1, fun x hx1 hx2 hx3 => hA.2 x hx1 (Int.le_trans hx2 hmv.2) hx3⟩, rfl, hmv.2, hno⟩
  · rw [if_neg hd] at hA hdir ⊢
    rw [if_neg hd]
    have hmv : s.tick ≤ s'.tick ∧ s'.tick < nti := by
      rcases hend with ⟨hp, _, e, _⟩ | ⟨_, _, e, _⟩
      · rw [e]; exact ti_between_up s.tick nti s.price p' P.tp n1 n2 hdir.1 (Nat.lt_of_le_of_ne hdir.2 hp)
      · rw [e]; exact ⟨Int.le_refl _, hA.1⟩
    have hno : ∀ x, s.tick < x → x ≤ s'.tick → x % (c.ts : Int) = 0 → initAt s.ticks x = false :=
      fun x hx1 hx2 hx3 => hA.2 x hx1 (Int.lt_of_le_of_lt hx2 hmv.2) hx3
    exact ⟨cover_const s.ticks ps c.ts P.tf s.tick s'.tick hmv.1 hno,
      ⟨n1, n2, hst, hmv.2, fun x hx1 hx2 hx3 => hA.2 x (Int.lt_of_le_of_lt hmv.1 hx1) hx2 hx3⟩, rfl, hmv.1, hno⟩

/-- the last conjunct defers the fee manager's invariant until the caller knows the end tick (`StepEnd`) -/
theorem step_price (c : SwapCtx) (ps : List (Nat × PositionD)) (p0 : Nat) (s s' : SwapSt) (nai : Nat) (nti : Int) (sc : SwapStep)
    (ok : CtxOK c) (P : Path c ps p0 s) (A : Aim c s nai nti)
    (hsc : computeSwap s.remaining s.fm.updateVolAcc.totalFeeRate s.liq s.price
      (s.fm.updateVolAcc.boundedTarget (if c.aToB then max c.limit (sp nti) else min c.limit (sp nti)) s.liq).1 c.isInput c.aToB = .ok sc)
    (ep : s'.price = sc.nextPrice)
    (efm : ((s.fm.updateVolAcc.boundedTarget (if c.aToB then max c.limit (sp nti) else min c.limit (sp nti)) s.liq).2 = false ∧
        s'.fm = s.fm.updateVolAcc.advance) ∨ s.fm.updateVolAcc.advanceAfterSkip sc.nextPrice (sp nti) nti = .ok s'.fm) :
    (if c.aToB then sp nti ≤ sc.nextPrice ∧ sc.nextPrice ≤ s.price else s.price ≤ sc.nextPrice ∧ sc.nextPrice ≤ sp nti) ∧
    MIN_SQRT_PRICE_X64 ≤ sc.nextPrice ∧ sc.nextPrice ≤ MAX_SQRT_PRICE_X64 ∧
    (if c.aToB then c.limit ≤ s'.price ∧ s'.price ≤ p0 else p0 ≤ s'.price ∧ s'.price ≤ c.limit) ∧
    (sc.nextPrice = sp nti → s'.price = (if c.aToB then max c.limit (sp nti) else min c.limit (sp nti))) ∧
    (StepEnd c.aToB s.tick s'.tick nti s.price sc.nextPrice → FmOK c.aToB s'.tick s'.fm) := by
  obtain ⟨wf, hb⟩ := step_wf c ps p0 s nai nti ok P A
  have hdir := C02.step_direction _ _ _ _ _ _ _ sc wf hsc
  obtain ⟨n1, n2, _, hA⟩ := A
  have hlim := P.lim
  have hfm := P.fm
  have hnb := sp_in_bounds nti n1 n2
  have hpb := TP_price_bounds _ _ P.tp
  by_cases hd : c.aToB = true
  · simp only [if_pos hd] at hb hdir hA hlim efm ⊢
    rw [hd] at hfm ⊢
    -- target ≤ bounded target ≤ new price ≤ old price
    have htn : max c.limit (sp nti) ≤ sc.nextPrice := Nat.le_trans hb.1 hdir.1
    have hge : sp nti ≤ sc.nextPrice := Nat.le_trans (Nat.le_max_right _ _) htn
    have hp'1 := Nat.le_trans hnb.1 hge
    have hp'2 := Nat.le_trans hdir.2 hpb.2
    exact ⟨⟨hge, hdir.2⟩, hp'1, hp'2, ep ▸ ⟨Nat.le_trans (Nat.le_max_left _ _) htn, Nat.le_trans hdir.2 hlim.2⟩,
      fun hp => ep ▸ Nat.le_antisymm (hp ▸ Nat.le_max_right _ _) htn,
      fun hend => fm_next_down s.fm s'.fm s.tick s'.tick nti s.price sc.nextPrice _ s.liq hfm P.tp (Int.le_trans n1 hA.1)
        hb.2 hp'1 hp'2 hdir.1 hend efm⟩
  · simp only [if_neg hd] at hb hdir hA hlim efm ⊢
    rw [Bool.eq_false_iff.mpr hd] at hfm ⊢
    -- old price ≤ new price ≤ bounded target ≤ target
    have htn : sc.nextPrice ≤ min c.limit (sp nti) := Nat.le_trans hdir.2 hb.1
    have hge : sc.nextPrice ≤ sp nti := Nat.le_trans htn (Nat.min_le_right _ _)
    have hp'1 := Nat.le_trans hpb.1 hdir.1
    have hp'2 := Nat.le_trans hge hnb.2
    exact ⟨⟨hdir.1, hge⟩, hp'1, hp'2, ep ▸ ⟨Nat.le_trans hlim.1 hdir.1, Nat.le_trans htn (Nat.min_le_left _ _)⟩,
      fun hp => ep ▸ Nat.le_antisymm htn (hp ▸ Nat.min_le_right _ _),
      fun hend => fm_next_up s.fm s'.fm s.tick s'.tick nti s.price sc.nextPrice _ s.liq hfm P.tp (Int.lt_of_lt_of_le hA.1 n2)
        hb.2 hp'1 hp'2 hdir.2 hend efm⟩

theorem step_path (c : SwapCtx) (ps : List (Nat × PositionD)) (p0 : Nat) (s s' : SwapSt) (nai : Nat) (nti : Int)
    (ok : CtxOK c) (P : Path c ps p0 s) (A : Aim c s nai nti)
    (h : swapStep c s nai nti (sp nti) (if c.aToB then max c.limit (sp nti) else min c.limit (sp nti)) = .ok s') :
    Path c ps p0 s' ∧ (s'.price ≠ (if c.aToB then max c.limit (sp nti) else min c.limit (sp nti)) → Aim c s' nai nti) ∧
      Shape c s s' nti := by
  obtain ⟨sc, hsc, hcr, ep, efg, efm, erem⟩ := swapStep_parts c s s' nai nti (sp nti) _ h
  obtain ⟨hdir, hp'1, hp'2, hlim', htgt, hfmN⟩ := step_price c ps p0 s s' nai nti sc ok P A hsc ep efm
  have hfee : ∃ fee, s'.fgIn = (calculateFees fee c.protoRate s.liq s.protoFee s.fgIn).2 := ⟨sc.feeAmount, efg⟩
  have hx := stepCross_spec c s sc _ nai nti (sp nti) _ hcr
  dsimp only at hx
  have hend : StepEnd c.aToB s.tick s'.tick nti s.price sc.nextPrice :=
    hx.imp (fun k => ⟨k.1, k.2.1, A.1, A.2.1⟩) (Or.imp (fun k => ⟨k.1, k.2.1, k.2.2.1⟩) (fun k => ⟨k.1, k.2.1, k.2.2.1⟩))
  rcases hx with ⟨hp, htick, hcase⟩ | hshort
  · obtain ⟨e1, tp, tf', e2, hflip⟩ := path_cross c ps p0 s s'.liq s'.ticks nai nti _ _ ok P A hcase
    exact ⟨{ liq := htick ▸ e1, tf := tf', tp := by rw [htick, ep, hp]; exact tp, lim := hlim', fm := hfmN hend,
             remU := Nat.le_trans erem P.remU, liqU := e2 },
      fun hne => absurd (htgt hp) hne, hfee, Or.inl ⟨htick, hflip, A.2.2.2⟩⟩
  · obtain ⟨tp, tf', e2, e1, A', sh⟩ := path_slide c ps p0 s s' nai nti sc.nextPrice P A hp'1 hp'2 hdir hshort
    exact ⟨{ liq := e1, tf := tf', tp := ep ▸ tp, lim := hlim', fm := hfmN hend, remU := Nat.le_trans erem P.remU, liqU := e2 },
      fun _ => A', hfee, Or.inr sh⟩

/-! ### the loop -/

theorem seq_first (m : TickMap) (arrays : List Int) (ts : Nat) (d : Bool) (fuel : Nat) (s : Int) (idx : Nat) (r : Nat × Int)
    (h : seqNextInit m arrays ts d (fuel + 1) s idx = .ok r) :
    ∃ start, arrays[idx]? = some start ∧
      (if d then start ≤ s ∧ s < start + 88 * (ts : Int) else start - (ts : Int) ≤ s ∧ s < start + 88 * (ts : Int) - ts) := by
  unfold seqNextInit at h
  cases harr : arrays[idx]? with
  | none => rw [harr] at h; cases h
  | some start =>
    rw [harr] at h
    dsimp only at h
    refine ⟨start, rfl, ?_⟩
    -- outside the range `arrayNextInit` fails, and the sequence search with it; the direction only selects the bounds
    unfold arrayNextInit at h
    rw [show ((TICK_ARRAY_SIZE : Nat) : Int) = 88 from rfl] at h
    dsimp only at h
    cases hr : (decide (s ≥ if (!d) = true then start - (ts : Int) else start) &&
        decide (s < if (!d) = true then start + 88 * (ts : Int) - ts else start + 88 * (ts : Int))) with
    | false => rw [hr, Bool.not_false, if_pos rfl] at h; cases h
    | true =>
      have hr := (Bool.and_eq_true _ _ ▸ hr).imp of_decide_eq_true of_decide_eq_true
      cases d
      · exact hr
      · exact hr

theorem aim_of_search (c : SwapCtx) (ps : List (Nat × PositionD)) (p0 : Nat) (s : SwapSt) (ok : CtxOK c) (P : Path c ps p0 s)
    (hne : c.limit ≠ s.price) (r : Nat × Int)
    (h : seqNextInit s.ticks c.arrays c.ts c.aToB (c.arrays.length + 1) s.tick s.arrayIdx = .ok r) :
    Aim c s r.1 r.2 := by
  obtain ⟨start, harr, hrange⟩ := seq_first _ _ _ _ _ _ _ _ h
  have hr := TP_range _ _ P.tp
  have hcons := ok.consec
  have hlim := P.lim
  have hts : (0 : Int) < c.ts := Int.natCast_pos.mpr ok.ts
  unfold Aim
  by_cases hd : c.aToB = true
  · rw [if_pos hd] at hrange hcons hlim ⊢
    rw [hd] at h
    -- below the minimum tick the price sits on the limit's lower bound, and the loop would have stopped
    have hmin : MIN_TICK_INDEX ≤ s.tick := by
      rcases P.tp with ⟨a, _⟩ | ⟨_, b⟩
      · exact a
      · exact absurd (Nat.le_antisymm hlim.1 (b ▸ sp_min ▸ ok.lim_lo)) hne
    obtain ⟨i, r', hrun, _, hrs, ⟨st, hst, q1, q2⟩, hno, hkind⟩ :=
      C10.seqNext_down_interval s.ticks c.arrays c.ts ok.ts hcons ok.aligned (c.arrays.length + 1) s.arrayIdx s.tick start
        harr hrange.1 hrange.2 hmin (by omega)
    rw [hrun] at h
    cases h
    refine ⟨?_, Int.le_trans hrs hr.2, ⟨st, hst, by omega, q2⟩, hrs, hno⟩
    rcases hkind with hi | hm | ⟨st', _, _, _, hgt⟩
    · exact (init_grid s.ticks ps c.ts P.tf r' hi).2.1
    · exact Int.le_of_eq hm.symm
    · omega
  · rw [if_neg hd] at hrange hcons hlim ⊢
    rw [Bool.eq_false_iff.mpr hd] at h
    have hmax : s.tick < MAX_TICK_INDEX := by
      rcases Int.lt_or_eq_of_le hr.2 with hm | hm
      · exact hm
      · rcases P.tp with ⟨_, _, _, _, e⟩ | ⟨a, _⟩
        · exact absurd (Nat.le_antisymm (e hm ▸ hm ▸ sp_max ▸ ok.lim_hi) hlim.2) hne
        · have := min_le_max; omega
    obtain ⟨i, r', hrun, _, hrs, ⟨st, hst, q1, q2⟩, hno, hkind⟩ :=
      C10.seqNext_up_interval s.ticks c.arrays c.ts ok.ts hcons ok.aligned (c.arrays.length + 1) s.arrayIdx s.tick start
        harr hrange.1 hrange.2 hmax (by omega)
    rw [hrun] at h
    cases h
    refine ⟨by omega, ?_, ⟨st, hst, q1, q2⟩, hrs, hno⟩
    rcases hkind with hi | hm | ⟨st', _, _, _, hgt⟩
    · exact (init_grid s.ticks ps c.ts P.tf r' hi).2.2
    · exact Int.le_of_eq hm
    · omega

/-- the two nested loops keep the invariant `Path`, and with it any predicate `Q` on the loop state
    that every iteration preserves; the iteration is handed over as its `Shape` AND as the raw step
    equation (so that amount-level facts — C02, C06 — are available to `Q`) -/
theorem loop_path_step (c : SwapCtx) (ps : List (Nat × PositionD)) (p0 : Nat) (ok : CtxOK c) (Q : SwapSt → Prop)
    (hQ : ∀ s s' nai nti, Path c ps p0 s → Aim c s nai nti → Shape c s s' nti → Path c ps p0 s' →
      swapStep c s nai nti (sp nti) (if c.aToB then max c.limit (sp nti) else min c.limit (sp nti)) = .ok s' → Q s → Q s') :
    ∀ (fuel : Nat) (s : SwapSt) (inner : Option (Nat × Int × Nat × Nat)) (s' : SwapSt),
      Path c ps p0 s → Q s →
      (∀ nai nti ntp tgt, inner = some (nai, nti, ntp, tgt) →
        Aim c s nai nti ∧ ntp = sp nti ∧ tgt = (if c.aToB then max c.limit (sp nti) else min c.limit (sp nti))) →
      swapLoop c fuel s inner = .ok s' → Path c ps p0 s' ∧ Q s' := by
  intro fuel s inner s' P q hin h
  -- inside the inner loop the invariant also says what the loop is aiming at
  have key := swapLoop_ind c
    (fun s inner => Path c ps p0 s ∧ Q s ∧ ∀ nai nti ntp tgt, inner = some (nai, nti, ntp, tgt) →
      Aim c s nai nti ∧ ntp = sp nti ∧ tgt = (if c.aToB then max c.limit (sp nti) else min c.limit (sp nti)))
    (fun s r ⟨P, q, _⟩ _ hne hs =>
      ⟨P, q, fun _ _ _ _ he => by cases he; exact ⟨aim_of_search c ps p0 s ok P hne r hs, rfl, rfl⟩⟩)
    (fun s s1 nai nti ntp tgt ⟨P, q, hin⟩ hst => by
      obtain ⟨A, rfl, rfl⟩ := hin nai nti ntp tgt rfl
      obtain ⟨P1, A1, sh⟩ := step_path c ps p0 s s1 nai nti ok P A hst
      have q1 : Q s1 := hQ s s1 nai nti P A sh P1 hst q
      exact ⟨⟨P1, q1, fun _ _ _ _ he => by cases he⟩,
        fun hne => ⟨P1, q1, fun _ _ _ _ he => by cases he; exact ⟨A1 hne, rfl, rfl⟩⟩⟩)
    fuel s s' inner ⟨P, q, hin⟩ h
  exact ⟨key.1.1, key.1.2.1⟩

theorem loop_path_inv (c : SwapCtx) (ps : List (Nat × PositionD)) (p0 : Nat) (ok : CtxOK c) (Q : SwapSt → Prop)
    (hQ : ∀ s s' nai nti, Path c ps p0 s → Aim c s nai nti → Shape c s s' nti → Path c ps p0 s' → Q s → Q s') :
    ∀ (fuel : Nat) (s : SwapSt) (inner : Option (Nat × Int × Nat × Nat)) (s' : SwapSt),
      Path c ps p0 s → Q s →
      (∀ nai nti ntp tgt, inner = some (nai, nti, ntp, tgt) →
        Aim c s nai nti ∧ ntp = sp nti ∧ tgt = (if c.aToB then max c.limit (sp nti) else min c.limit (sp nti))) →
      swapLoop c fuel s inner = .ok s' → Path c ps p0 s' ∧ Q s' :=
  loop_path_step c ps p0 ok Q (fun s s' nai nti P A sh P' _ q => hQ s s' nai nti P A sh P' q)

theorem loop_path (c : SwapCtx) (ps : List (Nat × PositionD)) (p0 : Nat) (ok : CtxOK c) :
    ∀ (fuel : Nat) (s : SwapSt) (inner : Option (Nat × Int × Nat × Nat)) (s' : SwapSt),
      Path c ps p0 s →
      (∀ nai nti ntp tgt, inner = some (nai, nti, ntp, tgt) →
        Aim c s nai nti ∧ ntp = sp nti ∧ tgt = (if c.aToB then max c.limit (sp nti) else min c.limit (sp nti))) →
      swapLoop c fuel s inner = .ok s' → Path c ps p0 s' := by
  intro fuel s inner s' P hin h
  exact (loop_path_inv c ps p0 ok (fun _ => True) (fun _ _ _ _ _ _ _ _ _ => trivial) fuel s inner s' P trivial hin h).1

/-! ### the whole swap -/

/-- the array sequence handed to `swap` is aligned and consecutive in the swap direction (what the
    builder guarantees: C10 `start_indexes_consec`, `buildSeq_spec`) -/
def SeqOK (arrays : List Int) (ts : Nat) (aToB : Bool) : Prop :=
  (if aToB then C10.ConsecDown arrays ts else C10.ConsecUp arrays ts) ∧ C10.StartsAligned arrays ts

/-- the adaptive-fee constants a manager works with, if it is adaptive: fixed by `FeeRateManager::new`,
    kept by every iteration -/
def fmConsts : FeeMgr → Option AfConstants
  | .static _ => none
  | .adaptive m => some m.c

theorem fmConsts_new (d : Bool) (tick : Int) (now rate : Nat) (af : Option AfInfo) (fm : FeeMgr)
    (h : FeeMgr.new d tick now rate af = .ok fm) : fmConsts fm = af.map (·.constants) := by
  unfold FeeMgr.new at h
  cases af with
  | none => cases h; rfl
  | some info =>
    dsimp only at h
    split at h
    · cases h
    · cases h; rfl

theorem fmConsts_step (c : SwapCtx) (s s' : SwapSt) (nai : Nat) (nti : Int) (ntp tgt : Nat)
    (h : swapStep c s nai nti ntp tgt = .ok s') : fmConsts s'.fm = fmConsts s.fm := by
  obtain ⟨sc, _, _, _, _, hfm, _⟩ := swapStep_parts c s s' nai nti ntp tgt h
  rcases hfm with ⟨_, e⟩ | e
  · rw [e]; cases s.fm <;> rfl
  · cases hf : s.fm with
    | static r => rw [hf] at e; cases e
    | adaptive m =>
      rw [hf] at e
      obtain ⟨m2, e2, _, a2, _⟩ := afterSkip_spec _ _ _ _ _ e
      rw [e2]
      exact congrArg some a2

theorem swap_setup_fm (p : PoolD) (ticks : TickMap) (ps : List (Nat × PositionD)) (arrays : List Int) (amount limit : Nat)
    (isInput aToB : Bool) (now fuel : Nat) (af : Option AfInfo) (u : PostSwap)
    (hts : 0 < p.ts) (hseq : SeqOK arrays p.ts aToB)
    (hliq : (p.liq : Int) = sumBy (inRangeLiq p.tick) ps) (tf : TickFacts ticks ps p.ts) (tp : TP p.tick p.price)
    (hL : p.liq ≤ U128_MAX) (hfee : p.feeRate ≤ FEE_RATE_HARD_LIMIT) (hamt : amount ≤ U64_MAX)
    (haf : ∀ info, af = some info → InfoOK info)
    (h : swap p ticks arrays amount limit isInput aToB now af fuel = .ok u) :
    ∃ rewards fm s, FeeMgr.new aToB p.tick now p.feeRate af = .ok fm ∧
      CtxOK (swapCtxOf p arrays limit isInput aToB rewards) ∧
      Path (swapCtxOf p arrays limit isInput aToB rewards) ps p.price (swapInit p ticks amount aToB fm) ∧
      swapLoop (swapCtxOf p arrays limit isInput aToB rewards) fuel (swapInit p ticks amount aToB fm) none = .ok s ∧
      swapFinish p amount limit isInput aToB now rewards s = .ok u ∧ nextRewardInfos p now = .ok rewards := by
  obtain ⟨g1, g2, g3, _⟩ := C03.swap_limit_guard _ _ _ _ _ _ _ _ _ _ _ h
  obtain ⟨rewards, fm, s, _, hrw, hfm, hloop, hfin⟩ := swap_ok.mp h
  have htb := TP_range _ _ tp
  refine ⟨rewards, fm, s, hfm, { ts := hts, consec := hseq.1, aligned := hseq.2, lim_lo := g1, lim_hi := g2 },
    { liq := hliq, tf := tf, tp := tp, lim := ?_, fm := new_ok aToB p.tick now p.feeRate af fm hfee haf htb.1 htb.2 hfm,
      remU := hamt, liqU := hL }, hloop, hfin, hrw⟩
  show if aToB = true then adjLimit limit aToB ≤ p.price ∧ p.price ≤ p.price else p.price ≤ p.price ∧ p.price ≤ adjLimit limit aToB
  by_cases hd : aToB = true
  · rw [if_pos hd] at g3 ⊢; exact ⟨Nat.le_of_lt g3, Nat.le_refl _⟩
  · rw [if_neg hd] at g3 ⊢; exact ⟨Nat.le_refl _, Nat.le_of_lt g3⟩

theorem swap_setup (p : PoolD) (ticks : TickMap) (ps : List (Nat × PositionD)) (arrays : List Int) (amount limit : Nat)
    (isInput aToB : Bool) (now fuel : Nat) (af : Option AfInfo) (u : PostSwap)
    (hts : 0 < p.ts) (hseq : SeqOK arrays p.ts aToB)
    (hliq : (p.liq : Int) = sumBy (inRangeLiq p.tick) ps) (tf : TickFacts ticks ps p.ts) (tp : TP p.tick p.price)
    (hL : p.liq ≤ U128_MAX) (hfee : p.feeRate ≤ FEE_RATE_HARD_LIMIT) (hamt : amount ≤ U64_MAX)
    (haf : ∀ info, af = some info → InfoOK info)
    (h : swap p ticks arrays amount limit isInput aToB now af fuel = .ok u) :
    ∃ rewards fm s, CtxOK (swapCtxOf p arrays limit isInput aToB rewards) ∧
      Path (swapCtxOf p arrays limit isInput aToB rewards) ps p.price (swapInit p ticks amount aToB fm) ∧
      swapLoop (swapCtxOf p arrays limit isInput aToB rewards) fuel (swapInit p ticks amount aToB fm) none = .ok s ∧
      swapFinish p amount limit isInput aToB now rewards s = .ok u ∧ nextRewardInfos p now = .ok rewards := by
  obtain ⟨rewards, fm, s, _, rest⟩ :=
    swap_setup_fm p ticks ps arrays amount limit isInput aToB now fuel af u hts hseq hliq tf tp hL hfee hamt haf h
  exact ⟨rewards, fm, s, rest⟩

theorem updateMajorSwapTs_spec (fm fm' : FeeMgr) (now pre post : Nat) (h : fm.updateMajorSwapTs now pre post = .ok fm') :
    (∀ r, fm = .static r → fm' = .static r) ∧
    (∀ m, fm = .adaptive m → ∃ v', fm' = .adaptive { m with v := v' } ∧ (VarOK m.c m.v → VarOK m.c v')) := by
  cases fm with
  | static r => cases h; exact ⟨fun _ e => e, fun _ e => FeeMgr.noConfusion e⟩
  | adaptive m =>
    refine ⟨fun _ e => FeeMgr.noConfusion e, fun m0 e => ?_⟩
    cases e
    unfold FeeMgr.updateMajorSwapTs at h
    dsimp only at h
    cases hv' : m.v.updateMajorSwapTs pre post now m.c with
    | error e => rw [hv'] at h; cases h
    | ok v' =>
      rw [hv'] at h
      cases h
      refine ⟨v', rfl, fun hv => ?_⟩
      unfold AfVariables.updateMajorSwapTs at hv'
      cases hm : isMajorSwap pre post m.c.majorSwapThresholdTicks with
      | error e => rw [hm] at hv'; cases hv'
      | ok b => rw [hm] at hv'; cases b <;> cases hv' <;> exact hv

/-- **the swap as a whole, static or adaptive fee**: for ANY tick map and ANY set of positions that
    the tick map is consistent with, any amount, limit, mode and direction, over an aligned
    consecutive array sequence of any length: the resulting liquidity is again the sum of the
    positions covering the resulting tick, the tick map stays consistent, the tick index stays
    consistent with the price, the price ends between the limit and the starting price, and the
    adaptive-fee state stays in range. -/
theorem swap_path (p : PoolD) (ticks : TickMap) (ps : List (Nat × PositionD)) (arrays : List Int) (amount limit : Nat)
    (isInput aToB : Bool) (now fuel : Nat) (af : Option AfInfo) (u : PostSwap)
    (hts : 0 < p.ts) (hseq : SeqOK arrays p.ts aToB)
    (hliq : (p.liq : Int) = sumBy (inRangeLiq p.tick) ps) (tf : TickFacts ticks ps p.ts) (tp : TP p.tick p.price)
    (hL : p.liq ≤ U128_MAX) (hfee : p.feeRate ≤ FEE_RATE_HARD_LIMIT) (hamt : amount ≤ U64_MAX)
    (haf : ∀ info, af = some info → InfoOK info)
    (h : swap p ticks arrays amount limit isInput aToB now af fuel = .ok u) :
    (u.liq : Int) = sumBy (inRangeLiq u.tick) ps ∧ TickFacts u.ticks ps p.ts ∧ TP u.tick u.price ∧ u.liq ≤ U128_MAX ∧
    (if aToB then adjLimit limit aToB ≤ u.price ∧ u.price ≤ p.price else p.price ≤ u.price ∧ u.price ≤ adjLimit limit aToB) ∧
    (af = none → u.afInfo = none) ∧
    (∀ info, af = some info → ∃ info', u.afInfo = some info' ∧ info'.constants = info.constants ∧ InfoOK info') := by
  obtain ⟨rewards, fm, s, hfm, ok, P0, hloop, hfin, _⟩ :=
    swap_setup_fm p ticks ps arrays amount limit isInput aToB now fuel af u hts hseq hliq tf tp hL hfee hamt haf h
  have P := loop_path _ ps p.price ok fuel _ none s P0 (fun _ _ _ _ he => by cases he) hloop
  have hk : fmConsts s.fm = af.map (·.constants) :=
    swapLoop_induct _ (fun st => fmConsts st.fm = af.map (·.constants))
      (fun a b nai nti ntp tgt ha hs => (fmConsts_step _ a b nai nti ntp tgt hs).trans ha)
      fuel _ s none (fmConsts_new _ _ _ _ _ _ hfm) hloop
  obtain ⟨_, fm', hfm', rfl⟩ := swapFinish_ok.mp hfin
  obtain ⟨hst, had⟩ := updateMajorSwapTs_spec _ _ _ _ _ hfm'
  refine ⟨P.liq, P.tf, P.tp, P.liqU, P.lim, fun hnone => ?_, fun info hinfo => ?_⟩
  · rw [hnone] at hk
    cases hf : s.fm with
    | static r => rw [hst r hf]; rfl
    | adaptive m => rw [hf] at hk; cases hk
  · rw [hinfo] at hk
    obtain ⟨igs, ired, _⟩ := haf info hinfo
    cases hf : s.fm with
    | static r => rw [hf] at hk; cases hk
    | adaptive m =>
      rw [hf] at hk
      have hc : m.c = info.constants := Option.some.inj hk
      obtain ⟨v', e, hv'⟩ := had m hf
      have hfmE := P.fm
      rw [hf] at hfmE
      rw [e]
      exact ⟨_, rfl, hc, { gs := hc ▸ igs, red := hc ▸ ired, var := hv' hfmE.2.2 }⟩

theorem swap_static (p : PoolD) (ticks : TickMap) (ps : List (Nat × PositionD)) (arrays : List Int) (amount limit : Nat)
    (isInput aToB : Bool) (now fuel : Nat) (u : PostSwap)
    (hts : 0 < p.ts) (hseq : SeqOK arrays p.ts aToB)
    (hliq : (p.liq : Int) = sumBy (inRangeLiq p.tick) ps) (tf : TickFacts ticks ps p.ts) (tp : TP p.tick p.price)
    (hL : p.liq ≤ U128_MAX) (hfee : p.feeRate ≤ FEE_RATE_HARD_LIMIT) (hamt : amount ≤ U64_MAX)
    (h : swap p ticks arrays amount limit isInput aToB now none fuel = .ok u) :
    (u.liq : Int) = sumBy (inRangeLiq u.tick) ps ∧ TickFacts u.ticks ps p.ts ∧ TP u.tick u.price ∧ u.liq ≤ U128_MAX ∧
    u.afInfo = none ∧
    (if aToB then adjLimit limit aToB ≤ u.price ∧ u.price ≤ p.price else p.price ≤ u.price ∧ u.price ≤ adjLimit limit aToB) := by
  obtain ⟨a, b, c, d, e, f, _⟩ := swap_path p ticks ps arrays amount limit isInput aToB now fuel none u hts hseq hliq tf tp hL hfee hamt
    (fun _ hh => by cases hh) h
  exact ⟨a, b, c, d, f rfl, e⟩

end WP.Path
