import WP.Props.C14
/-
  C14, last clause at swap level: **a pool whose adaptive-fee control factor is zero charges exactly like a static-fee
  pool.**  Whenever the swap on the adaptive-fee pool succeeds, the swap on the same pool taken as a static-fee pool
  (no Oracle) succeeds with the same amounts, fees, liquidity, tick index, price, fee growth, protocol fee, tick map
  and step trace — for every amount, limit, mode, direction and array sequence; no hypothesis on the pool state.
  (The converse direction can fail only in the adaptive pool's own timestamp / major-swap bookkeeping.)
-/
namespace WP.ZeroControl
open WP WP.Gen

/-- the two loop states: equal except that one carries a static manager and the other an adaptive one with control
    factor zero and the same static rate -/
structure Rz (r : Nat) (s sA : SwapSt) : Prop where
  rem : s.remaining = sA.remaining
  cal : s.calculated = sA.calculated
  price : s.price = sA.price
  tick : s.tick = sA.tick
  liq : s.liq = sA.liq
  proto : s.protoFee = sA.protoFee
  idx : s.arrayIdx = sA.arrayIdx
  fg : s.fgIn = sA.fgIn
  fee : s.feeSum = sA.feeSum
  ticks : s.ticks = sA.ticks
  steps : s.steps = sA.steps
  fmS : s.fm = .static r
  fmA : ∃ m, sA.fm = .adaptive m ∧ m.c.controlFactor = 0 ∧ m.staticRate = r

theorem afterSkip_adaptive (m : AdaptiveMgr) (p np : Nat) (nt : Int) :
    ∃ m', (FeeMgr.adaptive m).advanceAfterSkip p np nt = .ok (.adaptive m') ∧ m'.c = m.c ∧ m'.staticRate = m.staticRate := by
  obtain ⟨m', h, hc, hr, _⟩ := C14.afterSkip_spec m p np nt
  exact ⟨m', h, hc, hr⟩

/-- one iteration: the static manager charges `r` and never bounds the target, and so does the adaptive one
    (`C14.zero_control`); everything else in the step reads fields the two states share -/
theorem step_sim (c : SwapCtx) (r : Nat) (hr : r ≤ FEE_RATE_HARD_LIMIT) (s sA sA' : SwapSt) (nai : Nat) (nti : Int) (ntp tgt : Nat)
    (R : Rz r s sA) (h : swapStep c sA nai nti ntp tgt = .ok sA') :
    ∃ s', swapStep c s nai nti ntp tgt = .ok s' ∧ Rz r s' sA' := by
  obtain ⟨m, hm, hc0, hsr⟩ := R.fmA
  have hmu : sA.fm.updateVolAcc = .adaptive { m with v := m.v.updateVolAcc m.groupIndex m.c } := by rw [hm]; rfl
  have zc := C14.zero_control { m with v := m.v.updateVolAcc m.groupIndex m.c } hc0 (Nat.le_trans (Nat.le_of_eq hsr) hr) tgt sA.liq
  have hrateA : sA.fm.updateVolAcc.totalFeeRate = r := by rw [hmu, zc.2.1]; exact hsr
  have hbtA : sA.fm.updateVolAcc.boundedTarget tgt sA.liq = (tgt, true) := by
    rw [hmu]; unfold FeeMgr.boundedTarget; exact if_pos hc0
  have hrateS : s.fm.updateVolAcc.totalFeeRate = r := by rw [R.fmS]; rfl
  have hbtS : s.fm.updateVolAcc.boundedTarget tgt s.liq = (tgt, false) := by rw [R.fmS]; rfl
  obtain ⟨sc, ra, feeSum, cr, fm', hsc, hra, hfee, hcr, hfm, rfl⟩ := swapStep_ok.mp h
  rw [hrateA, hbtA] at hsc
  rw [hbtA, hmu] at hfm
  obtain ⟨m', hm', hc', hs'⟩ := afterSkip_adaptive { m with v := m.v.updateVolAcc m.groupIndex m.c } sc.nextPrice ntp nti
  cases hm'.symm.trans hfm
  refine ⟨_, swapStep_ok.mpr ⟨sc, ra, feeSum, cr, .static r, ?_, ?_, ?_, ?_, ?_, rfl⟩, ?_⟩
  · rw [hrateS, hbtS, R.rem, R.liq, R.price]; exact hsc
  · rw [R.rem, R.cal]; exact hra
  · rw [R.fee]; exact hfee
  · rw [R.liq, R.proto, R.fg]
    unfold stepCross at hcr ⊢
    rw [R.ticks, R.liq, R.price, R.idx, R.tick]; exact hcr
  · rw [hbtS, R.fmS]; rfl
  · exact { rem := rfl, cal := rfl, price := rfl, tick := rfl, liq := rfl, idx := rfl, fee := rfl, ticks := rfl,
            proto := by simp only [R.liq, R.proto, R.fg], fg := by simp only [R.liq, R.proto, R.fg],
            steps := by simp only [hrateS, hrateA, R.liq, R.steps], fmS := rfl,
            fmA := ⟨m', rfl, by rw [hc']; exact hc0, by rw [hs']; exact hsr⟩ }

theorem loop_sim (c : SwapCtx) (r : Nat) (hr : r ≤ FEE_RATE_HARD_LIMIT) :
    ∀ (fuel : Nat) (s sA sA' : SwapSt) (inner : Option (Nat × Int × Nat × Nat)), Rz r s sA →
      swapLoop c fuel sA inner = .ok sA' → ∃ s', swapLoop c fuel s inner = .ok s' ∧ Rz r s' sA' := by
  intro fuel
  induction fuel with
  | zero => intro s sA sA' inner _ h; unfold swapLoop at h; cases h
  | succ fuel ih =>
    intro s sA sA' inner R h
    cases inner with
    | none =>
      unfold swapLoop at h ⊢
      rw [R.rem, R.price, R.ticks, R.tick, R.idx]
      by_cases hc : (decide (sA.remaining > 0) && decide (c.limit ≠ sA.price)) = true
      · rw [if_pos hc] at h ⊢
        cases hres : seqNextInit sA.ticks c.arrays c.ts c.aToB (c.arrays.length + 1) sA.tick sA.arrayIdx with
        | error e => rw [hres] at h; cases h
        | ok res =>
          rw [hres] at h
          simp only [] at h ⊢
          exact ih s sA sA' _ R h
      · rw [if_neg hc] at h ⊢; cases h; exact ⟨s, rfl, R⟩
    | some w =>
      obtain ⟨nai, nti, ntp, tgt⟩ := w
      unfold swapLoop at h ⊢
      cases hst : swapStep c sA nai nti ntp tgt with
      | error e => rw [hst] at h; cases h
      | ok sA1 =>
        rw [hst] at h
        simp only [] at h
        obtain ⟨s1, hs1, R1⟩ := step_sim c r hr s sA sA1 nai nti ntp tgt R hst
        rw [hs1]
        simp only []
        rw [R1.rem, R1.price]
        by_cases hc : (decide (sA1.remaining = 0) || decide (sA1.price = tgt)) = true
        · rw [if_pos hc] at h ⊢; exact ih s1 sA1 sA' none R1 h
        · rw [if_neg hc] at h ⊢; exact ih s1 sA1 sA' _ R1 h

/-- **C14, zero control factor.**  If the swap on an adaptive-fee pool whose control factor is zero succeeds, the same
    swap on the same pool without the adaptive-fee state succeeds and produces the same result, except that it
    returns no adaptive-fee state. -/
theorem zero_control_swap (p : PoolD) (ticks : TickMap) (arrays : List Int) (amount limit : Nat) (isInput aToB : Bool)
    (now fuel : Nat) (info : AfInfo) (u : PostSwap) (h0 : info.constants.controlFactor = 0)
    (hfee : p.feeRate ≤ FEE_RATE_HARD_LIMIT)
    (h : swap p ticks arrays amount limit isInput aToB now (some info) fuel = .ok u) :
    swap p ticks arrays amount limit isInput aToB now none fuel = .ok { u with afInfo := none } := by
  obtain ⟨rewards, fmA, sA, hg, hrw, hfm, hloop, hfin⟩ := swap_ok.mp h
  obtain ⟨m, rfl, hs, hc, _⟩ := C14.new_adaptive _ _ _ _ _ _ hfm
  have R0 : Rz p.feeRate (swapInit p ticks amount aToB (.static p.feeRate)) (swapInit p ticks amount aToB (.adaptive m)) :=
    { rem := rfl, cal := rfl, price := rfl, tick := rfl, liq := rfl, proto := rfl, idx := rfl, fg := rfl, fee := rfl,
      ticks := rfl, steps := rfl, fmS := rfl, fmA := ⟨m, rfl, by rw [hc]; exact h0, hs⟩ }
  obtain ⟨s, hs', R⟩ := loop_sim _ p.feeRate hfee fuel _ _ sA none R0 hloop
  refine swap_ok.mpr ⟨rewards, .static p.feeRate, s, hg, hrw, rfl, hs', ?_⟩
  obtain ⟨hpf, fm', _, rfl⟩ := swapFinish_ok.mp hfin
  refine swapFinish_ok.mpr ⟨by rw [R.rem]; exact hpf, .static p.feeRate, by rw [R.fmS]; rfl, ?_⟩
  rw [R.rem, R.cal, R.fee, R.proto, R.liq, R.tick, R.price, R.fg, R.ticks, R.steps]
  rfl

/-- the hypothesis is met: a crossing swap on an adaptive-fee pool with control factor zero succeeds (kernel-evaluated),
    and the static twin gives the same amounts -/
def exInfo0 : AfInfo :=
  AfInfo.mk { filterPeriod := 30, decayPeriod := 600, reductionFactor := 5000, controlFactor := 0,
              maxVolAcc := 350000, groupSize := 64, majorSwapThresholdTicks := 64 } {}

def exPool0 : PoolD := { ts := 64, feeRate := 3000, protoRate := 300, liq := 1000000000, price := 18446744073709551616, tick := 0 }

example : ((swap exPool0 [] [0, -5632] 6450000 0 true true 100 (some exInfo0) 4000000).toOption.map
              (fun u => (u.amountA, u.amountB, u.lpFee, u.protoFee, u.tick)) = some (6450000, 6389560, 18770, 580, -129) ∧
           (swap exPool0 [] [0, -5632] 6450000 0 true true 100 none 4000000).toOption.map
              (fun u => (u.amountA, u.amountB, u.lpFee, u.protoFee, u.tick)) = some (6450000, 6389560, 18770, 580, -129)) = True := by
  decide +kernel

end WP.ZeroControl
